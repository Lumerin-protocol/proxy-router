import PRV.Props.C14
-- GENERATED by bin/check: axiom audit of every property theorem
#print axioms PRV.Props.C14.splitAux_append
#print axioms PRV.Props.C14.splitAux_line
#print axioms PRV.Props.C14.splitAux_noline
#print axioms PRV.Props.C14.splitLines_flatten
#print axioms PRV.Props.C14.takeLine_append
#print axioms PRV.Props.C14.takeLine_noline
#print axioms PRV.Props.C14.takeLine_some
#print axioms PRV.Props.C14.takeLine_none
#print axioms PRV.Props.C14.inv_recv
#print axioms PRV.Props.C14.inv_cancel
#print axioms PRV.Props.C14.inv_take
#print axioms PRV.Props.C14.inv_read
#print axioms PRV.Props.C14.inv_readCancelled
#print axioms PRV.Props.C14.inv_rstep
#print axioms PRV.Props.C14.inv_reachable
#print axioms PRV.Props.C14.read_prefix_invariant
#print axioms PRV.Props.C14.read_lines_exact
#print axioms PRV.Props.C14.cancelled_read_keeps_completed_line
#print axioms PRV.Props.C14.cancelled_read_takes_nothing
#print axioms PRV.Props.C14.read_blocks_only_when_no_line
#print axioms PRV.Props.C14.winv_write
#print axioms PRV.Props.C14.write_cancel_clean
#print axioms PRV.Props.C14.write_ok_appends_line
