import PRV.Props.C01
-- GENERATED by bin/check: axiom audit of every property theorem
#print axioms PRV.Props.C01.shape_facts
#print axioms PRV.Props.C01.d1_eq
#print axioms PRV.Props.C01.header_eq_spec
#print axioms PRV.Props.C01.header_len
#print axioms PRV.Props.C01.validateDiff_eq_spec
#print axioms PRV.Props.C01.accept_iff_meets
#print axioms PRV.Props.C01.meets_integer
#print axioms PRV.Props.C01.verdict_ignores_names
#print axioms PRV.Props.C01.version_bits_outside_mask_ignored
#print axioms PRV.Props.C01.no_bits_is_job_version
#print axioms PRV.Props.C01.version_bits
#print axioms PRV.Props.C01.isHex_ofList
#print axioms PRV.Props.C01.hexN_ofList
