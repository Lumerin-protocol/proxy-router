import PRV.Props.C06
-- GENERATED by bin/check: axiom audit of every property theorem
#print axioms PRV.Props.C06.dialsIn_append
#print axioms PRV.Props.C06.resend_no_dial
#print axioms PRV.Props.C06.acquire_fresh_one_dial
#print axioms PRV.Props.C06.closes_no_dial
#print axioms PRV.Props.C06.release_live
#print axioms PRV.Props.C06.no_dial_before_delay
#print axioms PRV.Props.C06.resumes_once_or_releases
#print axioms PRV.Props.C06.miner_gone_during_wait_leaves_nothing
#print axioms PRV.Props.C06.no_dial_without_fault
#print axioms PRV.Props.C06.parked_failure_keeps_relaying
#print axioms PRV.Props.C06.active_failure_waits
#print axioms PRV.Props.C06.release_closes_everything
#print axioms PRV.Props.C06.DialBudget.le
#print axioms PRV.Props.C06.release_budget
#print axioms PRV.Props.C06.reconnect_budget
#print axioms PRV.Props.C06.lifeStep_budget
#print axioms PRV.Props.C06.dials_never_exceed_faults
#print axioms PRV.Props.C06.fresh_budget
#print axioms PRV.Props.C06.released_ops
#print axioms PRV.Props.C06.released_is_final
#print axioms PRV.Props.C06.source_run_renews_its_pipe
#print axioms PRV.Props.C06.source_session_owns_its_destination
