import PRV.Props.C19
-- GENERATED by bin/check: axiom audit of every property theorem
#print axioms PRV.Props.C19.specStep_log
#print axioms PRV.Props.C19.step_refines
#print axioms PRV.Props.C19.c19_validator_refines_spec
#print axioms PRV.Props.C19.bsm_recent
#print axioms PRV.Props.C19.bsm_bounded
#print axioms PRV.Props.C19.recent_unexpired_checked
#print axioms PRV.Props.C19.not_recent_notFound
#print axioms PRV.Props.C19.expired_refused
#print axioms PRV.Props.C19.expired_iff
#print axioms PRV.Props.C19.never_stamped_never_expires
#print axioms PRV.Props.C19.clean_notify_stamps
#print axioms PRV.Props.C19.expAt_step
#print axioms PRV.Props.C19.exp_stable
#print axioms PRV.Props.C19.exp_none_stable
#print axioms PRV.Props.C19.latest_is_last
#print axioms PRV.Props.C19.duplicate_iff
#print axioms PRV.Props.C19.serializeShare_injective
