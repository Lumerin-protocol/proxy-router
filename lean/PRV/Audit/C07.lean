import PRV.Props.C07
-- GENERATED by bin/check: axiom audit of every property theorem
#print axioms PRV.Props.C07.advance_spec
#print axioms PRV.Props.C07.step_of_settle
#print axioms PRV.Props.C07.step_spec
#print axioms PRV.Props.C07.init_wf_quiescent
#print axioms PRV.Props.C07.reachable_wf_quiescent
#print axioms PRV.Props.C07.settled_state
#print axioms PRV.Props.C07.remove_spec
#print axioms PRV.Props.C07.inOrder_iff
#print axioms PRV.Props.C07.step_in_order
#print axioms PRV.Props.C07.mem_newKeys
#print axioms PRV.Props.C07.no_task_of_contract_preserved
#print axioms PRV.Props.C07.exit_notifies_all
#print axioms PRV.Props.C07.end_cause
#print axioms PRV.Props.C07.tasklist_cancel_spec
#print axioms PRV.Props.C07.tasklist_size
#print axioms PRV.Props.C07.source_onEnd_before_unlock
#print axioms PRV.Props.C07.source_disconnect_marks_first
#print axioms PRV.Props.C07.Slow.Moves.refl
#print axioms PRV.Props.C07.Slow.step_moves
#print axioms PRV.Props.C07.Slow.moves_wfs
#print axioms PRV.Props.C07.Slow.step_wfs
#print axioms PRV.Props.C07.Slow.init_wfs
#print axioms PRV.Props.C07.Slow.reachable_wfs
#print axioms PRV.Props.C07.Slow.begin_is_live
#print axioms PRV.Props.C07.Slow.end_cause
#print axioms PRV.Props.C07.Slow.remove_cleans
#print axioms PRV.Props.C07.Slow.moves_clean
#print axioms PRV.Props.C07.Slow.step_clean
#print axioms PRV.Props.C07.Slow.run_clean
#print axioms PRV.Props.C07.Slow.removed_contract_never_begun
#print axioms PRV.Props.C07.Slow.release_installs
#print axioms PRV.Props.C07.Slow.moves_ord
#print axioms PRV.Props.C07.Slow.init_ord
#print axioms PRV.Props.C07.Slow.begun_in_arrival_order
#print axioms PRV.Props.C07.Slow.served_in_arrival_order
