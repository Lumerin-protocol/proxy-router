import PRV.Props.C09
-- GENERATED by bin/check: axiom audit of every property theorem
#print axioms PRV.Props.C09.thresholds
#print axioms PRV.Props.C09.cycleEnd_source
#print axioms PRV.Props.C09.adjust_source
#print axioms PRV.Props.C09.log_source
#print axioms PRV.Props.C09.cutoff_source
#print axioms PRV.Props.C09.cycleEnd_books
#print axioms PRV.Props.C09.pos_of_significant
#print axioms PRV.Props.C09.adjust_pos
#print axioms PRV.Props.C09.adjust_ideal
#print axioms PRV.Props.C09.cycle_ideal
#print axioms PRV.Props.C09.ideal_cycle_delivers_rate
#print axioms PRV.Props.C09.shortfall_made_up_next_cycle
#print axioms PRV.Props.C09.books_are_exact
#print axioms PRV.Props.C09.request_is_what_is_owed
#print axioms PRV.Props.C09.adjust_books
#print axioms PRV.Props.C09.replace_books_what_is_owed
#print axioms PRV.Props.C09.unarranged_is_retried
#print axioms PRV.Props.C09.ideal_replaces_at_once
#print axioms PRV.Props.C09.adjust_within
#print axioms PRV.Props.C09.sane_cycle_not_ahead
#print axioms PRV.Props.C09.real_allocator_claims_are_sane
#print axioms PRV.Props.C09.small_contract_alternates
#print axioms PRV.Props.C09.cutoff_makes_up
#print axioms PRV.Props.C09.cutoff_not_below_rate
#print axioms PRV.Props.C09.cutoff_not_ahead
#print axioms PRV.Props.C09.plain_cutoff_never_makes_up
#print axioms PRV.Props.C09.small_miners_starve_then_flood
#print axioms PRV.Props.C09.whole_miners_overstay
#print axioms PRV.Props.C09.tracked_step
#print axioms PRV.Props.C09.books_track_the_queue
#print axioms PRV.Props.C09.code_has_that_order
#print axioms PRV.Props.C09.swapped_order_loses_a_miner
#print axioms PRV.Props.C09.source_disconnect_events_are_not_dropped
