import PRV.Props.C15
-- GENERATED by bin/check: axiom audit of every property theorem
#print axioms PRV.Props.C15.find_drop
#print axioms PRV.Props.C15.step_open
#print axioms PRV.Props.C15.configure_reply
#print axioms PRV.Props.C15.subscribe_reply
#print axioms PRV.Props.C15.subscribe_forwarded
#print axioms PRV.Props.C15.authorize_acked_once
#print axioms PRV.Props.C15.authorize_before_subscribe_refused
#print axioms PRV.Props.C15.quiet_same
#print axioms PRV.Props.C15.quiet_fail
#print axioms PRV.Props.C15.quiet_dial
#print axioms PRV.Props.C15.onConfigure_quiet
#print axioms PRV.Props.C15.onSubscribe_quiet
#print axioms PRV.Props.C15.onAuthorize_quiet
#print axioms PRV.Props.C15.onResult_quiet
#print axioms PRV.Props.C15.step_quiet
#print axioms PRV.Props.C15.subscribed_only_by_own_subscribe
#print axioms PRV.Props.C15.connected_only_if_authorised
#print axioms PRV.Props.C15.authorised_connects
#print axioms PRV.Props.C15.refused_authorize_fails
#print axioms PRV.Props.C15.unknown_contract_refused
#print axioms PRV.Props.C15.known_contract_routed
#print axioms PRV.Props.C15.second_configure_refused
#print axioms PRV.Props.C15.connections_do_not_interfere
#print axioms PRV.Props.C15.source_handler_clones_destination
#print axioms PRV.Props.C15.source_handler_registered_before_write
#print axioms PRV.Props.C15.answer_finds_its_handler
#print axioms PRV.Props.C15.write_before_register_loses_the_answer
