import PRV.Props.C11
-- GENERATED by bin/check: axiom audit of every property theorem
#print axioms PRV.Props.C11.total_cons
#print axioms PRV.Props.C11.total_append
#print axioms PRV.Props.C11.Picked.mem
#print axioms PRV.Props.C11.Picked.ids
#print axioms PRV.Props.C11.mem_snapshot
#print axioms PRV.Props.C11.snapshot_ids_nodup
#print axioms PRV.Props.C11.mem_freeItems
#print axioms PRV.Props.C11.mem_partialItems
#print axioms PRV.Props.C11.freeItems_ids_nodup
#print axioms PRV.Props.C11.partialItems_ids_nodup
#print axioms PRV.Props.C11.FitsSeq.total_le
#print axioms PRV.Props.C11.fullLoop_inv
#print axioms PRV.Props.C11.full_remainder_eq
#print axioms PRV.Props.C11.full_each_fits
#print axioms PRV.Props.C11.full_sum_le
#print axioms PRV.Props.C11.full_remainder_nonneg
#print axioms PRV.Props.C11.full_eligible
#print axioms PRV.Props.C11.full_no_miner_twice
#print axioms PRV.Props.C11.full_never_overcommits
#print axioms PRV.Props.C11.minJob_pos
#print axioms PRV.Props.C11.partialLoop_inv
#print axioms PRV.Props.C11.partialLoop_spec
#print axioms PRV.Props.C11.freeLoop_inv
#print axioms PRV.Props.C11.freeLoop_spec
#print axioms PRV.Props.C11.freeItem_cap
#print axioms PRV.Props.C11.partial_spec
#print axioms PRV.Props.C11.partial_no_miner_twice
#print axioms PRV.Props.C11.partial_zero_duration
#print axioms PRV.Props.C11.source_vetting_threshold_wired
