import PRV.Props.C10
-- GENERATED by bin/check: axiom audit of every property theorem
#print axioms PRV.Props.C10.tol_eq
#print axioms PRV.Props.C10.tol_skip
#print axioms PRV.Props.C10.tol_after_skip
#print axioms PRV.Props.C10.clamp_eq
#print axioms PRV.Props.C10.tol_bounds
#print axioms PRV.Props.C10.tol_le_one
#print axioms PRV.Props.C10.tol_ge_min
#print axioms PRV.Props.C10.tol_antitone
#print axioms PRV.Props.C10.hashrateOK_iff
#print axioms PRV.Props.C10.check_fst
#print axioms PRV.Props.C10.verdict_iff
#print axioms PRV.Props.C10.verdict_cause
#print axioms PRV.Props.C10.overdelivery_ok
#print axioms PRV.Props.C10.grace_ok
#print axioms PRV.Props.C10.skip_period_no_underdelivery
#print axioms PRV.Props.C10.end_is_not_a_fault
#print axioms PRV.Props.C10.reason_dest
#print axioms PRV.Props.C10.reason_share_timeout
#print axioms PRV.Props.C10.reason_underdelivery
#print axioms PRV.Props.C10.reason_other
#print axioms PRV.Props.C10.reasons_distinct
#print axioms PRV.Props.C10.closeLoop_failed
#print axioms PRV.Props.C10.retry_until_success
#print axioms PRV.Props.C10.retry_never_gives_up
#print axioms PRV.Props.C10.closed_first_no_tx
#print axioms PRV.Props.C10.normal_end_no_tx
#print axioms PRV.Props.C10.closed_meanwhile_stops
#print axioms PRV.Props.C10.tx_count_le_rounds
#print axioms PRV.Props.C10.source_record_prepared
#print axioms PRV.Props.C10.fresh_purchase_starts_clean
#print axioms PRV.Props.C10.lastSubmit_onSubmit
#print axioms PRV.Props.C10.purchase_reference
#print axioms PRV.Props.C10.connect_keeps_the_record
#print axioms PRV.Props.C10.stale_record_survives_without_reset
#print axioms PRV.Props.C10.other_records_untouched
#print axioms PRV.Props.C10.source_grace_default
#print axioms PRV.Props.C10.grace_default_covers_cycle
#print axioms PRV.Props.C10.source_dest_failure_always_ends_validation
