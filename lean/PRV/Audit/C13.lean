import PRV.Props.C13
-- GENERATED by bin/check: axiom audit of every property theorem
#print axioms PRV.Props.C13.oldest_mem
#print axioms PRV.Props.C13.oldest_none
#print axioms PRV.Props.C13.evict_room
#print axioms PRV.Props.C13.evict_makes_room
#print axioms PRV.Props.C13.evict_maxCached
#print axioms PRV.Props.C13.install_length
#print axioms PRV.Props.C13.switch_keeps_cache_bounded
#print axioms PRV.Props.C13.events_keep_cache_size
#print axioms PRV.Props.C13.end_releases_everything
#print axioms PRV.Props.C13.released_is_final
#print axioms PRV.Props.C13.stop_not_running
#print axioms PRV.Props.C13.step_inv
#print axioms PRV.Props.C13.reachable_inv
#print axioms PRV.Props.C13.readers_le
#print axioms PRV.Props.C13.single_relay_loop
#print axioms PRV.Props.C13.run_restart_two_readers_before_fix
#print axioms PRV.Props.C13.source_disconnect_flag_first
#print axioms PRV.Props.C13.source_scheduler_stops_its_proxy_task
