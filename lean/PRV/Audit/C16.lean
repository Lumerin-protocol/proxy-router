import PRV.Props.C16
-- GENERATED by bin/check: axiom audit of every property theorem
#print axioms PRV.Props.C16.mem_add
#print axioms PRV.Props.C16.add_only
#print axioms PRV.Props.C16.add_me
#print axioms PRV.Props.C16.scan_fold
#print axioms PRV.Props.C16.startup_watches_exactly_own
#print axioms PRV.Props.C16.setChain_watched
#print axioms PRV.Props.C16.find_setChain_eq
#print axioms PRV.Props.C16.find_setChain
#print axioms PRV.Props.C16.purchase_picked_up
#print axioms PRV.Props.C16.foreign_purchase_ignored
#print axioms PRV.Props.C16.ended_released
#print axioms PRV.Props.C16.exit_releases_only_own
#print axioms PRV.Props.C16.close_and_flag_keep_watched
#print axioms PRV.Props.C16.repurchase_before_exit_is_lost
#print axioms PRV.Props.C16.repurchase_after_exit_is_watched
#print axioms PRV.Props.C16.source_run_stops_before_waiting
#print axioms PRV.Props.C16.run_returns_on_every_exit
#print axioms PRV.Props.C16.waiting_without_stopping_hangs
#print axioms PRV.Props.C16.runDefer_cancelled
#print axioms PRV.Props.C16.returns_iff_cancel_first
