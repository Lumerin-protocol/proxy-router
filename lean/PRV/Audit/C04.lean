import PRV.Props.C04
-- GENERATED by bin/check: axiom audit of every property theorem
#print axioms PRV.Props.C04.ledgers
#print axioms PRV.Props.C04.task_credit_only_own_destination
#print axioms PRV.Props.C04.credit_is_job_difficulty
#print axioms PRV.Props.C04.verdict_bucket
#print axioms PRV.Props.C04.totalCredit_cons
#print axioms PRV.Props.C04.acceptedCount_cons
#print axioms PRV.Props.C04.rejectedCount_cons
#print axioms PRV.Props.C04.accepted_add_rejected
#print axioms PRV.Props.C04.ledgers_step
#print axioms PRV.Props.C04.add_step
#print axioms PRV.Props.C04.ledgers_history
#print axioms PRV.Props.C04.ledgers_agree_history
#print axioms PRV.Props.C04.every_submit_counted
#print axioms PRV.Props.C04.submitAll_mem
#print axioms PRV.Props.C04.rejected_no_credit_history
#print axioms PRV.Props.C04.Book.connect_keeps_totals
#print axioms PRV.Props.C04.Book.submit_total
#print axioms PRV.Props.C04.Book.worker_total_history
#print axioms PRV.Props.C04.switch_installs_callback
