import PRV.Props.C08
-- GENERATED by bin/check: axiom audit of every property theorem
#print axioms PRV.Props.C08.load_valid
#print axioms PRV.Props.C08.Inv.of_idle
#print axioms PRV.Props.C08.Inv.of_dest
#print axioms PRV.Props.C08.inv_boot_and_handlers
#print axioms PRV.Props.C08.allocates_only_live
#print axioms PRV.Props.C08.close_stops
#print axioms PRV.Props.C08.settle_stops
#print axioms PRV.Props.C08.expiry_stops
#print axioms PRV.Props.C08.bad_payload_not_fulfilled
#print axioms PRV.Props.C08.purchase_engages
#print axioms PRV.Props.C08.purchase_takes_chain_terms
#print axioms PRV.Props.C08.repurchase_reengages
#print axioms PRV.Props.C08.restart_resumes
#print axioms PRV.Props.C08.restart_not_live
#print axioms PRV.Props.C08.onDestUpdated_valid
#print axioms PRV.Props.C08.dest_update_followed
#print axioms PRV.Props.C08.dest_update_on_ended_contract_stops
#print axioms PRV.Props.C08.terms_update_while_running
#print axioms PRV.Props.C08.terms_update_idle
#print axioms PRV.Props.C08.repurchase_under_new_terms
#print axioms PRV.Props.C08.inv_termsUpdated
#print axioms PRV.Props.C08.inv_boot
#print axioms PRV.Props.C08.inv_apply
#print axioms PRV.Props.C08.history_inv
#print axioms PRV.Props.C08.history_allocates_only_live
#print axioms PRV.Props.C08.rpc_failure_is_harmless
#print axioms PRV.Props.C08.running_terms_fixed
#print axioms PRV.Props.C08.source_flag_cleared_before_done
#print axioms PRV.Props.C08.restart_after_done_is_clean
#print axioms PRV.Props.C08.done_before_flag_loses_an_update
