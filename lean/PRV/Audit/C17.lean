import PRV.Props.C17
-- GENERATED by bin/check: axiom audit of every property theorem
#print axioms PRV.Props.C17.copy_identity
#print axioms PRV.Props.C17.setUser_only_user
#print axioms PRV.Props.C17.setWorker_only_user
#print axioms PRV.Props.C17.cut_append
#print axioms PRV.Props.C17.cut_join
#print axioms PRV.Props.C17.split_no_dot
#print axioms PRV.Props.C17.cutDot_spec
#print axioms PRV.Props.C17.account_kept
#print axioms PRV.Props.C17.password_kept
#print axioms PRV.Props.C17.suffix_iff_allowed
#print axioms PRV.Props.C17.authorize_paths_agree
#print axioms PRV.Props.C17.contract_connection_no_suffix
#print axioms PRV.Props.C17.contract_user_exact
#print axioms PRV.Props.C17.split_join_roundtrip
#print axioms PRV.Props.C17.worker_suffix_exact
#print axioms PRV.Props.C17.setWorker_replaces
#print axioms PRV.Props.C17.setWorker_idempotent
#print axioms PRV.Props.C17.authorize_idempotent
#print axioms PRV.Props.C17.authorize_repeat
#print axioms PRV.Props.C17.account_kept_sequence
#print axioms PRV.Props.C17.password_kept_sequence
#print axioms PRV.Props.C17.adjusted_idempotent
