import PRV.Props.C05
-- GENERATED by bin/check: axiom audit of every property theorem
#print axioms PRV.Props.C05.source_facts
#print axioms PRV.Props.C05.pointer_params_guarded
#print axioms PRV.Props.C05.of_guard
#print axioms PRV.Props.C05.submit_rules
#print axioms PRV.Props.C05.submit_getters_in_range
#print axioms PRV.Props.C05.fixed_getters_in_range
#print axioms PRV.Props.C05.serializeShare_slices_in_range
#print axioms PRV.Props.C05.jobStr_slots
#print axioms PRV.Props.C05.jobArr_slots
#print axioms PRV.Props.C05.validateDiff_header_does_not_fault
#print axioms PRV.Props.C05.extranonce_assertions_hold
#print axioms PRV.Props.C05.typed_ok_validated
#print axioms PRV.Props.C05.nine_length
