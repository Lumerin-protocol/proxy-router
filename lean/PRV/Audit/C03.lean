import PRV.Props.C03
-- GENERATED by bin/check: axiom audit of every property theorem
#print axioms PRV.Props.C03.parked_is_silent
#print axioms PRV.Props.C03.active_is_relayed
#print axioms PRV.Props.C03.job_captures_current_values
#print axioms PRV.Props.C03.changes_keep_recorded_jobs
#print axioms PRV.Props.C03.resend_shape
#print axioms PRV.Props.C03.resend_toMiner
#print axioms PRV.Props.C03.filter_toMiner_of_poolSide
#print axioms PRV.Props.C03.switch_miner_messages
#print axioms PRV.Props.C03.source_setDest_shape
#print axioms PRV.Props.C03.resend_happens_with_readers_stopped
#print axioms PRV.Props.C03.lastConnOf_pool
#print axioms PRV.Props.C03.poolStep_spec
#print axioms PRV.Props.C03.poolStep_active
#print axioms PRV.Props.C03.other_pools_silent_history
