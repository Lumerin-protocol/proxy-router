import PRV.Props.C18
-- GENERATED by bin/check: axiom audit of every property theorem
#print axioms PRV.Props.C18.evalRev_congr
#print axioms PRV.Props.C18.evalRev_untouched
#print axioms PRV.Props.C18.stmts_avoid_secrets
#print axioms PRV.Props.C18.stmts_target_fields
#print axioms PRV.Props.C18.no_field_from_secret
#print axioms PRV.Props.C18.sanitize_noninterference
#print axioms PRV.Props.C18.secrets_blank
#print axioms PRV.Props.C18.whole_config_only_to
#print axioms PRV.Props.C18.decrypt_fail_closed
#print axioms PRV.Props.C18.decrypt_roundtrip
#print axioms PRV.Props.C18.decrypt_rejected
#print axioms PRV.Props.C18.source_buyer_destination_handling
#print axioms PRV.Props.C18.encrypted_destination_fails_closed
#print axioms PRV.Props.C18.decryptable_destination_is_used
#print axioms PRV.Props.C18.picked_up_whatever_the_destination
#print axioms PRV.Props.C18.default_pool_only_without_destination
