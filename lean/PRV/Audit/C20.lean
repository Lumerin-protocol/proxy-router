import PRV.Props.C20
-- GENERATED by bin/check: axiom audit of every property theorem
#print axioms PRV.Props.C20.hs_job_inverse
#print axioms PRV.Props.C20.ghs_job_inverse
#print axioms PRV.Props.C20.v2_inverse
#print axioms PRV.Props.C20.v2_one_second
#print axioms PRV.Props.C20.trunc_scale
#print axioms PRV.Props.C20.ghs_hs_int_inverse
#print axioms PRV.Props.C20.ghs_hs_trunc
#print axioms PRV.Props.C20.step_bound
#print axioms PRV.Props.C20.Approx.refl
#print axioms PRV.Props.C20.Approx.fl
#print axioms PRV.Props.C20.Approx.mul_right
#print axioms PRV.Props.C20.Approx.div_right
#print axioms PRV.Props.C20.Approx.bound
#print axioms PRV.Props.C20.ghs_job_roundtrip_rounded
#print axioms PRV.Props.C20.four_roundings_below_6u
#print axioms PRV.Props.C20.mean_total_over_elapsed
#print axioms PRV.Props.C20.mean_defined_nonneg
#print axioms PRV.Props.C20.mean_total_is_sum
#print axioms PRV.Props.C20.mean_first_kept
#print axioms PRV.Props.C20.ema_step
#print axioms PRV.Props.C20.ema_bounded
#print axioms PRV.Props.C20.dropExpired_sum
#print axioms PRV.Props.C20.dropExpired_sublist
#print axioms PRV.Props.C20.sma_check_inv
#print axioms PRV.Props.C20.sma_nonneg
#print axioms PRV.Props.C20.sma_add_inv
#print axioms PRV.Props.C20.source_seller_converts_over_one_span
