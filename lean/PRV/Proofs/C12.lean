import PRV.Model.Task
/-
Invariant of the Task transition system.
-/
namespace PRV.Proofs.C12
open PRV.Model.Task

def b2n (b : Bool) : Nat := if b then 1 else 0
@[simp] theorem b2n_true : b2n true = 1 := rfl
@[simp] theorem b2n_false : b2n false = 0 := rfl
theorem b2n_le (b : Bool) : b2n b ≤ 1 := by cases b <;> simp

/-- who is responsible for the running flag being set -/
def holders (s : St) : Nat :=
  s.nLoadDone + s.nStoreRun + b2n s.spawnPending.isSome + b2n s.go.isSome + b2n s.doneLocked

def goPc (s : St) : Option GoPc := s.go.map (·.2)
def goGen (s : St) : Option Nat := s.go.map (·.1)

def Inv (s : St) : Prop :=
  holders s ≤ 1 ∧
  (s.isRunning = true ↔ holders s = 1) ∧
  s.twoHolders = false ∧ s.doubleClose = false ∧
  s.active = b2n (goPc s = some .running) ∧
  (s.doneLocked = true → s.isDone = true) ∧
  (s.isDone = true → s.nStoreRun = 0 ∧ s.spawnPending = none ∧
      (goPc s = none ∨ goPc s = some .dCloseDone ∨ goPc s = some .dReset) ∧ (s.parent = true ∨ s.ownReturned = true)) ∧
  (s.doneClosed = true → s.isDone = true ∧ goPc s ≠ some .dCloseDone) ∧
  ((goPc s = some .dSetDone ∨ goPc s = some .dCloseDone ∨ goPc s = some .dReset) →
      (s.parent = true ∨ s.ownReturned = true)) ∧
  (goPc s = some .dSetDone → s.isDone = false) ∧
  ((goPc s = some .dCloseDone ∨ goPc s = some .dReset) → s.isDone = true) ∧
  -- generations
  (∀ x, (x ∈ s.stopClosed ∨ x ∈ s.tails) → x < s.nextGen ∧ (∀ g, goGen s = some g → x < g) ∧
      (∀ g, s.spawnPending = some g → x < g)) ∧
  (∀ g, g < s.nextGen → g ∈ s.stopClosed ∨ g ∈ s.tails ∨ goGen s = some g ∨ s.spawnPending = some g) ∧
  (∀ g, (goGen s = some g ∨ s.spawnPending = some g) → g + 1 = s.nextGen ∧ s.run = some g) ∧
  (∀ g, s.run = some g → g < s.nextGen) ∧
  (∀ g, g ∈ s.cancelled → g < s.nextGen) ∧
  (∀ g, g ∈ s.stopCancel → g < s.nextGen) ∧
  (∀ g, s.go = some (g, .returned false) → (g ∈ s.cancelled ∨ s.parent = true ∨ s.ownReturned = true)) ∧
  (∀ g, s.go = some (g, .returned true) → s.ownReturned = true)

/-! The conjuncts of `Inv` fall into groups, each about a few fields only.  They are stated
about the field values, so that a step which leaves those fields alone carries the group over
as it stands. -/

/-- completion: `E` stands for "the parent ended or the function returned on its own" -/
structure DoneOK (locked done closed : Bool) (E : Prop) (nStore : Nat) (sp : Option Nat) (pc : Option GoPc) :
    Prop where
  ofLocked : locked = true → done = true
  ofDone : done = true → nStore = 0 ∧ sp = none ∧ (pc = none ∨ pc = some .dCloseDone ∨ pc = some .dReset) ∧ E
  ofClosed : closed = true → done = true ∧ pc ≠ some .dCloseDone
  onPath : (pc = some .dSetDone ∨ pc = some .dCloseDone ∨ pc = some .dReset) → E
  atSet : pc = some .dSetDone → done = false
  pastSet : (pc = some .dCloseDone ∨ pc = some .dReset) → done = true

/-- generations: every published one is released (`closed`, `tails`) or is the latest, which
the goroutine (`gg`) or the pending spawn (`sp`) owns -/
structure GenOK (closed tails : List Nat) (next : Nat) (gg sp run : Option Nat) : Prop where
  ofReleased : ∀ x, (x ∈ closed ∨ x ∈ tails) →
    x < next ∧ (∀ g, gg = some g → x < g) ∧ (∀ g, sp = some g → x < g)
  ofPublished : ∀ g, g < next → g ∈ closed ∨ g ∈ tails ∨ gg = some g ∨ sp = some g
  ofLive : ∀ g, (gg = some g ∨ sp = some g) → g + 1 = next ∧ run = some g
  ofRun : ∀ g, run = some g → g < next

def RetOK (go : Option (Nat × GoPc)) (cancelled : List Nat) (parent own : Bool) : Prop :=
  (∀ g, go = some (g, .returned false) → (g ∈ cancelled ∨ parent = true ∨ own = true)) ∧
  (∀ g, go = some (g, .returned true) → own = true)

structure Groups (s : St) : Prop where
  flag : s.nLoadDone + s.nStoreRun + b2n s.spawnPending.isSome + b2n s.go.isSome + b2n s.doneLocked =
    b2n s.isRunning
  single : s.twoHolders = false
  noPanic : s.doubleClose = false
  active : s.active = b2n (s.go.map (·.2) = some .running)
  done : DoneOK s.doneLocked s.isDone s.doneClosed (s.parent = true ∨ s.ownReturned = true) s.nStoreRun
    s.spawnPending (s.go.map (·.2))
  gen : GenOK s.stopClosed s.tails s.nextGen (s.go.map (·.1)) s.spawnPending s.run
  cancelled : ∀ g ∈ s.cancelled, g < s.nextGen
  stopCancel : ∀ g ∈ s.stopCancel, g < s.nextGen
  ret : RetOK s.go s.cancelled s.parent s.ownReturned

/-- the first two conjuncts of `Inv`: the flag counts its holders -/
theorem flag_iff {r : Bool} {n : Nat} : n ≤ 1 ∧ (r = true ↔ n = 1) ↔ n = b2n r := by
  cases r
  · simp only [b2n_false, Bool.false_eq_true, false_iff]
    omega
  · simp only [b2n_true, true_iff]
    exact and_iff_right_of_imp Nat.le_of_eq

theorem Inv.groups {s : St} (h : Inv s) : Groups s := by
  obtain ⟨h1, h2, h3, h4, h5, h6, h7, h8, h9, h10, h11, h12, h13, h14, h15, h16, h17, h18, h19⟩ := h
  exact ⟨flag_iff.mp ⟨h1, h2⟩, h3, h4, h5, ⟨h6, h7, h8, h9, h10, h11⟩, ⟨h12, h13, h14, h15⟩, h16, h17, h18, h19⟩

theorem Groups.inv {s : St} (h : Groups s) : Inv s := by
  obtain ⟨hf, h3, h4, h5, ⟨h6, h7, h8, h9, h10, h11⟩, ⟨h12, h13, h14, h15⟩, h16, h17, h18, h19⟩ := h
  obtain ⟨h1, h2⟩ := flag_iff.mpr hf
  exact ⟨h1, h2, h3, h4, h5, h6, h7, h8, h9, h10, h11, h12, h13, h14, h15, h16, h17, h18, h19⟩

/-! The flag, on sums of the shape of `holders`: the token is taken, handed on, given back. -/

section flag
variable {a b c d e : Nat} {r : Bool}

theorem flag_acquire (h : a + b + c + d + e = b2n false) : a + 1 + b + c + d + e = b2n true := by
  simp only [Nat.add_right_comm _ 1, h]
  rfl

theorem flag_toStore (h : a + 1 + b + c + d + e = b2n r) : a + (b + 1) + c + d + e = b2n r :=
  Nat.add_right_comm a b 1 ▸ h

theorem flag_lock (h : a + 1 + b + c + d + e = b2n r) : a + b + c + d + 1 = b2n r := by
  have := b2n_le r
  omega

theorem flag_release (h : a + b + c + 1 + e = b2n r) : a + b + c + 0 + e = b2n false := by
  have := h ▸ b2n_le r
  rw [Nat.add_right_comm _ 1] at this
  exact Nat.le_zero.mp (Nat.le_of_succ_le_succ this)

end flag

section done
variable {dl d dc : Bool} {E E' : Prop} {n n' : Nat} {sp sp' : Option Nat} {pc pc' : Option GoPc}

/-- the positions at which the goroutine is not on the done path -/
def early : GoPc → Bool
  | .dSetDone | .dCloseDone | .dReset => false
  | _ => true

theorem DoneOK.mono (h : DoneOK dl d dc E n sp pc) (hE : E → E') : DoneOK dl d dc E' n sp pc :=
  { h with
    ofDone := fun x => (h.ofDone x).imp_right (.imp_right (.imp_right hE))
    onPath := fun x => hE (h.onPath x) }

/-- the task is not done while a Start call is before its spawn or the goroutine off the done path -/
theorem DoneOK.not_done (h : DoneOK dl d dc E n sp pc) (hx : n ≠ 0 ∨ sp ≠ none ∨ pc.any early = true) :
    d = false := by
  cases d with
  | false => rfl
  | true =>
    obtain ⟨a, b, c, _⟩ := h.ofDone rfl
    rcases hx with x | x | x
    · exact absurd a x
    · exact absurd b x
    · rcases c with rfl | rfl | rfl <;> cases x

/-- while the task is not done, the counters of Start are free -/
theorem DoneOK.counters (h : DoneOK dl d dc E n sp pc) (hd : d = false) : DoneOK dl d dc E n' sp' pc := by
  subst hd
  exact { h with ofDone := nofun }

/-- ... and so is every position off the done path -/
theorem DoneOK.move (h : DoneOK dl d dc E n sp pc) (hd : d = false) (hp : pc'.all early = true) :
    DoneOK dl d dc E n sp pc' := by
  subst hd
  exact { h with
    ofDone := nofun
    ofClosed := fun x => Bool.noConfusion (h.ofClosed x).1
    onPath := by rintro (rfl | rfl | rfl) <;> cases hp
    atSet := fun _ => rfl
    pastSet := by rintro (rfl | rfl) <;> cases hp }

/-- between two positions off the done path -/
theorem DoneOK.earlyStep (h : DoneOK dl d dc E n sp pc) (hp : pc.any early = true) (hp' : pc'.all early = true) :
    DoneOK dl d dc E n sp pc' :=
  h.move (h.not_done (.inr (.inr hp))) hp'

/-- `goDecide` takes the done path for the reason `E` -/
theorem DoneOK.decideDone (h : DoneOK dl d dc E n sp pc) (hd : d = false) (hE : E) :
    DoneOK dl d dc E n sp (some .dSetDone) := by
  subst hd
  exact { h with
    ofDone := nofun
    ofClosed := fun x => Bool.noConfusion (h.ofClosed x).1
    onPath := fun _ => hE
    atSet := fun _ => rfl
    pastSet := by rintro (x | x) <;> cases x }

theorem DoneOK.exit (h : DoneOK dl d dc E n sp pc) : DoneOK dl d dc E n sp none :=
  { h with
    ofDone := fun x => ⟨(h.ofDone x).1, (h.ofDone x).2.1, .inl rfl, (h.ofDone x).2.2.2⟩
    ofClosed := fun x => ⟨(h.ofClosed x).1, nofun⟩
    onPath := nofun
    atSet := nofun
    pastSet := nofun }

theorem DoneOK.setDone (h : DoneOK dl d dc E n sp (some .dSetDone)) (hn : n = 0) (hsp : sp = none) :
    DoneOK dl true dc E n sp (some .dCloseDone) :=
  have e := h.onPath (.inl rfl)
  { ofLocked := fun _ => rfl
    ofDone := fun _ => ⟨hn, hsp, .inr (.inl rfl), e⟩
    ofClosed := fun x => Bool.noConfusion ((h.atSet rfl).symm.trans (h.ofClosed x).1)
    onPath := fun _ => e
    atSet := nofun
    pastSet := fun _ => rfl }

theorem DoneOK.closeDone (h : DoneOK dl d dc E n sp (some .dCloseDone)) :
    DoneOK dl d true E n sp (some .dReset) :=
  have e := h.onPath (.inr (.inl rfl))
  { h with
    ofDone := fun x => ⟨(h.ofDone x).1, (h.ofDone x).2.1, .inr (.inr rfl), e⟩
    ofClosed := fun _ => ⟨h.pastSet (.inl rfl), nofun⟩
    onPath := fun _ => e
    atSet := nofun
    pastSet := fun _ => h.pastSet (.inl rfl) }

end done

section gen
variable {c t : List Nat} {n g : Nat} {a b r : Option Nat}

theorem GenOK.swap (h : GenOK c t n a b r) : GenOK c t n b a r :=
  { h with
    ofReleased := fun x hx => (h.ofReleased x hx).imp_right .symm
    ofPublished := fun g hg => (h.ofPublished g hg).imp_right (.imp_right .symm)
    ofLive := fun g hg => h.ofLive g hg.symm }

/-- `startStoreRun`: a new generation is published -/
theorem GenOK.publish (h : GenOK c t n a b r) (ha : a = none) (hb : b = none) :
    GenOK c t (n + 1) a (some n) (some n) := by
  subst ha hb
  refine ⟨fun x hx => ?_, fun g hg => ?_, ?_, ?_⟩
  · have := (h.ofReleased x hx).1
    exact ⟨Nat.lt_succ_of_lt this, nofun, fun g e => Option.some.inj e ▸ this⟩
  · rcases Nat.lt_succ_iff_lt_or_eq.mp hg with hlt | rfl
    · rcases h.ofPublished g hlt with a | a | a | a
      · exact .inl a
      · exact .inr (.inl a)
      · cases a
      · cases a
    · exact .inr (.inr (.inr rfl))
  · rintro g (a | a) <;> cases a
    exact ⟨rfl, rfl⟩
  · rintro g a
    cases a
    exact Nat.lt_succ_self _

/-- `goReset`: the goroutine's generation joins the tails -/
theorem GenOK.reset (h : GenOK c t n (some g) b r) (hb : b = none) : GenOK c (g :: t) n none b r := by
  subst hb
  refine ⟨fun x hx => ⟨?_, nofun, nofun⟩, fun g' hg' => ?_, ?_, h.ofRun⟩
  · rcases hx with a | a
    · exact (h.ofReleased x (.inl a)).1
    · rcases List.mem_cons.mp a with rfl | e
      · exact (h.ofLive x (.inl rfl)).1 ▸ Nat.lt_succ_self x
      · exact (h.ofReleased x (.inr e)).1
  · rcases h.ofPublished g' hg' with a | a | a | a
    · exact .inl a
    · exact .inr (.inl (List.mem_cons_of_mem _ a))
    · cases a; exact .inr (.inl List.mem_cons_self)
    · cases a
  · rintro g' (a | a) <;> cases a

/-- `goCloseStop`: a tail closes its stop channel -/
theorem GenOK.closeStop (h : GenOK c t n a b r) (hg : g ∈ t) : GenOK (g :: c) (t.erase g) n a b r := by
  refine { h with ofReleased := fun x hx => h.ofReleased x ?_, ofPublished := fun g' hg' => ?_ }
  · rcases hx with a | a
    · rcases List.mem_cons.mp a with rfl | e
      · exact .inr hg
      · exact .inl e
    · exact .inr (List.mem_of_mem_erase a)
  · rcases h.ofPublished g' hg' with a | a | a
    · exact .inl (List.mem_cons_of_mem _ a)
    · by_cases e : g' = g
      · exact .inl (e ▸ List.mem_cons_self)
      · exact .inr (.inl ((List.mem_erase_of_ne e).mpr a))
    · exact .inr (.inr a)

end gen

theorem retOK_ctx {g : Nat} {cn : List Nat} {p o : Bool} (h : g ∈ cn ∨ p = true ∨ o = true) :
    RetOK (some (g, .returned false)) cn p o :=
  ⟨fun _ e => by cases e; exact h, nofun⟩

theorem eq_zero_of_add_one_add_le {x e : Nat} (h : x + 1 + e ≤ 1) : x = 0 :=
  (Nat.add_eq_zero_iff.mp (Nat.le_zero.mp (Nat.le_of_succ_le_succ (Nat.add_right_comm x 1 e ▸ h)))).1

/-- whoever holds the flag holds it alone (`h` is the first conjunct of `Inv`) -/
theorem alone {a b e : Nat} {sp : Option Nat} {go : Option (Nat × GoPc)}
    (h : a + b + b2n sp.isSome + b2n go.isSome + e ≤ 1) :
    (b ≠ 0 → sp = none ∧ go = none) ∧ (∀ g, sp = some g → go = none) ∧
    (∀ x, go = some x → b = 0 ∧ sp = none) := by
  cases sp <;> cases go
  · exact ⟨fun _ => ⟨rfl, rfl⟩, nofun, nofun⟩
  · have hb := (Nat.add_eq_zero_iff.mp (eq_zero_of_add_one_add_le (x := a + b) h)).2
    exact ⟨fun h => absurd hb h, nofun, fun _ _ => ⟨hb, rfl⟩⟩
  · have hb := (Nat.add_eq_zero_iff.mp (eq_zero_of_add_one_add_le (x := a + b) h)).2
    exact ⟨fun h => absurd hb h, fun _ _ => rfl, nofun⟩
  · exact absurd (eq_zero_of_add_one_add_le (x := a + b + 1) h) (Nat.succ_ne_zero _)

/-- Frame of a goroutine step that keeps its generation: only `active`, the completion group and
the return group have to be shown again. -/
theorem Inv.goStep {s : St} {g : Nat} {pc pc' : GoPc} {a i : Nat} {o d dc : Bool} (h : Inv s)
    (hgo : s.go = some (g, pc))
    (ha : a = s.active + b2n (some pc' = some .running) - b2n (some pc = some .running))
    (hd : DoneOK s.doneLocked s.isDone s.doneClosed (s.parent = true ∨ s.ownReturned = true) s.nStoreRun
        s.spawnPending (some pc) →
      DoneOK s.doneLocked d dc (s.parent = true ∨ o = true) s.nStoreRun s.spawnPending (some pc'))
    (hr : RetOK (some (g, pc')) s.cancelled s.parent o) :
    Inv { s with go := some (g, pc'), active := a, invocations := i, ownReturned := o, isDone := d,
                 doneClosed := dc } := by
  obtain ⟨hf, hsingle, hpanic, ha', hd', hg, hc, hs, _⟩ := h.groups
  rw [hgo] at hf ha' hd' hg
  rw [ha'] at ha
  exact Groups.inv ⟨hf, hsingle, hpanic, ha.trans (Nat.add_sub_cancel_left ..), hd hd', hg, hc, hs, hr⟩

theorem Inv.not_closed {s : St} {g : Nat} (h : Inv s) (hgo : s.go = some (g, .dCloseDone)) :
    s.doneClosed = false :=
  Bool.eq_false_iff.mpr fun hc => (h.groups.done.ofClosed hc).2 (congrArg (Option.map (·.2)) hgo)

theorem inv_goBegin {s s' : St} (h : Inv s) (he : exec s .goBegin = some s') : Inv s' := by
  dsimp only [exec] at he
  split at he <;> cases he
  next g hgo =>
    exact h.goStep hgo rfl (·.earlyStep rfl rfl) ⟨nofun, nofun⟩

theorem inv_goReturnCtx {s s' : St} (h : Inv s) (he : exec s .goReturnCtx = some s') : Inv s' := by
  dsimp only [exec] at he
  split at he
  next g hgo =>
    obtain ⟨hctx, he⟩ := Option.ite_none_right_eq_some.mp he
    cases he
    rw [Bool.or_eq_true, List.contains_iff_mem] at hctx
    exact h.goStep hgo rfl (·.earlyStep rfl rfl) (retOK_ctx (hctx.imp_right .inl))
  next => cases he

theorem inv_goReturnOwn {s s' : St} (h : Inv s) (he : exec s .goReturnOwn = some s') : Inv s' := by
  dsimp only [exec] at he
  split at he <;> cases he
  next g hgo =>
    exact h.goStep hgo rfl (fun hd => (hd.mono (.imp_right fun _ => rfl)).earlyStep rfl rfl)
      ⟨nofun, fun _ _ => rfl⟩

theorem inv_goReturnOwnCtx {s s' : St} (h : Inv s) (he : exec s .goReturnOwnCtx = some s') : Inv s' := by
  dsimp only [exec] at he
  split at he <;> cases he
  next g hgo =>
    exact h.goStep hgo rfl (fun hd => (hd.mono (.imp_right fun _ => rfl)).earlyStep rfl rfl)
      (retOK_ctx (.inr (.inr rfl)))

theorem inv_goDecide {s s' : St} (h : Inv s) (he : exec s .goDecide = some s') : Inv s' := by
  dsimp only [exec] at he
  split at he
  next g own hgo =>
    split at he <;> cases he
    case isTrue =>
      exact h.goStep hgo rfl (·.earlyStep rfl rfl) ⟨nofun, nofun⟩
    case isFalse hstop =>
      -- the done path is taken only if the parent ended or the function returned on its own
      refine h.goStep hgo rfl (fun hd => hd.decideDone (hd.not_done (.inr (.inr rfl))) ?_) ⟨nofun, nofun⟩
      cases own with
      | true => exact .inr (h.groups.ret.2 g hgo)
      | false =>
        refine (h.groups.ret.1 g hgo).elim (fun hc => .inl ?_) id
        cases hp : s.parent with
        | true => rfl
        | false =>
          rw [hp, List.contains_iff_mem.mpr hc] at hstop
          exact absurd rfl hstop
  next => cases he

theorem inv_goSetDone {s s' : St} (h : Inv s) (he : exec s .goSetDone = some s') : Inv s' := by
  dsimp only [exec] at he
  split at he <;> cases he
  next g hgo =>
    have ⟨hn, hsp⟩ := (alone h.1).2.2 _ hgo
    exact h.goStep hgo rfl (·.setDone hn hsp) ⟨nofun, nofun⟩

theorem inv_goCloseDone {s s' : St} (h : Inv s) (he : exec s .goCloseDone = some s') : Inv s' := by
  dsimp only [exec] at he
  split at he
  next g hgo =>
    rw [h.not_closed hgo] at he
    cases he
    exact h.goStep hgo rfl (·.closeDone) ⟨nofun, nofun⟩
  next => cases he

theorem inv_goReset {s s' : St} (h : Inv s) (he : exec s .goReset = some s') : Inv s' := by
  have key : ∀ g pc, pc = .sReset ∨ pc = .dReset → s.go = some (g, pc) →
      Inv { s with go := none, isRunning := false, tails := g :: s.tails } := by
    intro g pc hpc hgo
    have hsp := ((alone h.1).2.2 _ hgo).2
    obtain ⟨hf, hsingle, hpanic, ha, hd, hg, hc, hs, _⟩ := h.groups
    rw [hgo] at hf ha hg
    refine Groups.inv ⟨flag_release hf, hsingle, hpanic, ?_, hd.exit, hg.reset hsp, hc, hs, nofun, nofun⟩
    rcases hpc with rfl | rfl <;> exact ha
  dsimp only [exec] at he
  split at he <;> cases he
  next g hgo => exact key g _ (.inl rfl) hgo
  next g hgo => exact key g _ (.inr rfl) hgo

theorem inv_goCloseStop {s s' : St} {g : Nat} (h : Inv s) (he : exec s (.goCloseStop g) = some s') :
    Inv s' := by
  dsimp only [exec] at he
  split at he <;> cases he
  next hg =>
    exact Groups.inv { h.groups with gen := h.groups.gen.closeStop (List.contains_iff_mem.mp hg) }

theorem inv_startCas {s s' : St} (h : Inv s) (he : exec s .startCas = some s') : Inv s' := by
  dsimp only [exec] at he
  obtain ⟨_, he⟩ := Option.ite_none_left_eq_some.mp he
  split at he <;> cases he
  case isTrue => exact h
  case isFalse hr =>
    have hf := h.groups.flag
    rw [(Bool.not_eq_true _).mp hr] at hf
    exact Groups.inv { h.groups with flag := flag_acquire hf }

theorem inv_startLoadDone {s s' : St} (h : Inv s) (he : exec s .startLoadDone = some s') : Inv s' := by
  dsimp only [exec] at he
  obtain ⟨h0, he⟩ := Option.ite_none_left_eq_some.mp he
  have hf := h.groups.flag
  rw [← Nat.sub_one_add_one h0] at hf
  split at he <;> cases he
  case isTrue hdone =>
    exact Groups.inv { h.groups with
      flag := flag_lock hf, done := { h.groups.done with ofLocked := fun _ => hdone } }
  case isFalse hdone =>
    exact Groups.inv { h.groups with
      flag := flag_toStore hf, done := h.groups.done.counters ((Bool.not_eq_true _).mp hdone) }

theorem inv_startStoreRun {s s' : St} (h : Inv s) (he : exec s .startStoreRun = some s') : Inv s' := by
  dsimp only [exec] at he
  obtain ⟨h0, he⟩ := Option.ite_none_left_eq_some.mp he
  obtain ⟨hsp, hgo⟩ := (alone h.1).1 h0
  rw [hsp] at he
  cases he
  have hf := h.groups.flag
  rw [← Nat.sub_one_add_one h0, hsp] at hf
  exact Groups.inv { h.groups with
    flag := hf
    done := h.groups.done.counters (h.groups.done.not_done (.inl h0))
    gen := h.groups.gen.publish (by rw [hgo]; rfl) hsp
    cancelled := fun g x => Nat.lt_succ_of_lt (h.groups.cancelled g x)
    stopCancel := fun g x => Nat.lt_succ_of_lt (h.groups.stopCancel g x) }

theorem inv_startSpawn {s s' : St} (h : Inv s) (he : exec s .startSpawn = some s') : Inv s' := by
  dsimp only [exec] at he
  split at he
  next => cases he
  next g hsp =>
    have hgo := (alone h.1).2.1 g hsp
    rw [hgo] at he
    cases he
    obtain ⟨hf, hsingle, hpanic, ha, hd, hg, hc, hs, _⟩ := h.groups
    rw [hsp, hgo] at hf hd hg
    rw [hgo] at ha
    have hnd := hd.not_done (.inr (.inl nofun))
    exact Groups.inv ⟨hf, hsingle, hpanic, ha, (hd.counters hnd).move hnd rfl, hg.swap, hc, hs, nofun, nofun⟩

theorem inv_parentCancel {s s' : St} (h : Inv s) (he : exec s .parentCancel = some s') : Inv s' := by
  cases he
  exact Groups.inv { h.groups with
    done := h.groups.done.mono fun _ => .inl rfl
    ret := ⟨fun _ _ => .inr (.inl rfl), h.groups.ret.2⟩ }

theorem inv_stopLoadRun {s s' : St} (h : Inv s) (he : exec s .stopLoadRun = some s') : Inv s' := by
  dsimp only [exec] at he
  obtain ⟨_, he⟩ := Option.ite_none_left_eq_some.mp he
  split at he <;> cases he
  next => exact h
  next g hrun =>
    exact Groups.inv { h.groups with
      stopCancel := List.forall_mem_cons.mpr ⟨h.groups.gen.ofRun g hrun, h.groups.stopCancel⟩ }

theorem inv_stopCancel {s s' : St} {g : Nat} (h : Inv s) (he : exec s (.stopCancel g) = some s') : Inv s' := by
  dsimp only [exec] at he
  split at he <;> cases he
  next hg =>
    have hs := h.groups.stopCancel
    exact Groups.inv { h.groups with
      cancelled := List.forall_mem_cons.mpr ⟨hs g (List.contains_iff_mem.mp hg), h.groups.cancelled⟩
      stopCancel := fun x hx => hs x (List.mem_of_mem_erase hx)
      ret := ⟨fun x hx => (h.groups.ret.1 x hx).imp_left (List.mem_cons_of_mem _), h.groups.ret.2⟩ }

/-- **The invariant is inductive.** -/
theorem inv_step (s s' : St) (l : Label) (h : Inv s) (he : exec s l = some s') : Inv s' := by
  cases l with
  | startBegin => cases he; exact h
  | stopBegin => cases he; exact h
  | parentCancel => exact inv_parentCancel h he
  | stopLoadRun => exact inv_stopLoadRun h he
  | stopCancel g => exact inv_stopCancel h he
  | startCas => exact inv_startCas h he
  | startLoadDone => exact inv_startLoadDone h he
  | startStoreRun => exact inv_startStoreRun h he
  | startSpawn => exact inv_startSpawn h he
  | goBegin => exact inv_goBegin h he
  | goReturnCtx => exact inv_goReturnCtx h he
  | goReturnOwn => exact inv_goReturnOwn h he
  | goDecide => exact inv_goDecide h he
  | goReturnOwnCtx => exact inv_goReturnOwnCtx h he
  | goSetDone => exact inv_goSetDone h he
  | goCloseDone => exact inv_goCloseDone h he
  | goReset => exact inv_goReset h he
  | goCloseStop g => exact inv_goCloseStop h he

theorem inv_init : Inv {} := by
  unfold Inv holders goPc goGen
  simp

theorem inv_reachable {s : St} (h : Reachable s) : Inv s := by
  induction h with
  | init => exact inv_init
  | step _ hs ih => obtain ⟨l, hl⟩ := hs; exact inv_step _ _ l ih hl

end PRV.Proofs.C12
