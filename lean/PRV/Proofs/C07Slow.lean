import PRV.Model.SchedSlow
import PRV.Proofs.C07
/-
Helper lemmas for the slow-destination-change model of the scheduler (`Model/SchedSlow.lean`).
-/
namespace PRV.Proofs.C07Slow
open PRV.Model.Sched (Task TaskList EndKind Out)
open PRV.Model.SchedSlow PRV.Proofs.C07

/-- the goroutine holds the head of the queue exactly while it is inside a task's `SetDest` or serving -/
def holds : Pc → Bool
  | .toTask _ _ => true
  | .serving => true
  | _ => false

structure WFs (s : S) : Prop where
  size  : s.tl.size = s.tl.tasks.length
  taken : s.pc ≠ .exited → (s.tl.taken = holds s.pc)
  head  : s.tl.taken = true → s.tl.tasks ≠ []
  toTask : ∀ tid d, s.pc = .toTask tid d → ∃ t rest, s.tl.tasks = t :: rest ∧ t.tid = tid ∧ t.dest = d

/-- the state after the head (in service) has been retired -/
def popS (s : S) (tid : Nat) (amb : Bool) : S :=
  { s with tl := { tasks := s.tl.tasks.tail, taken := false, size := s.tl.size - 1 }, ended := s.ended ++ [tid], ambig := amb }

theorem runLoop_cons (fuel : Nat) (s : S) (t : Task) (rest : List Task) (hl : s.tl.tasks = t :: rest) :
    runLoop (fuel + 1) s =
      if t.cancelled then
        ((runLoop fuel (popS s t.tid (s.ambig || decide (t.deadline ≤ s.now)))).1,
          .base (.onEnd t.tid (getRem s t.tid) .done) :: (runLoop fuel (popS s t.tid (s.ambig || decide (t.deadline ≤ s.now)))).2)
      else if t.deadline ≤ s.now then
        ((runLoop fuel (popS s t.tid s.ambig)).1,
          .base (.onEnd t.tid (getRem s t.tid) .deadline) :: (runLoop fuel (popS s t.tid s.ambig)).2)
      else ({ s with tl := { s.tl with taken := true }, pc := .toTask t.tid t.dest }, [.begin t.dest (some t)]) := by
  rw [runLoop]
  simp only [hl, retire, TaskList.unlockAndRemove, popS, Bool.not_true, Bool.false_eq_true, if_false, List.tail_cons]
  rfl

/-- the second select of `taskLoop` finds the head in service removed / finished or past its deadline: the goroutine
does what it does from the top of the loop -/
theorem serve_dead (fuel : Nat) (s : S) (t : Task) (rest : List Task) (ht : s.tl.taken = true) (hl : s.tl.tasks = t :: rest)
    (hd : t.cancelled = true ∨ t.deadline ≤ s.now) : serve fuel s = runLoop (fuel + 1) s := by
  have e : ({ tasks := t :: rest, taken := true, size := s.tl.size } : TaskList) = s.tl := by rw [← hl, ← ht]
  rw [runLoop, serve]
  simp only [hl, e]
  by_cases hc : t.cancelled = true
  · rw [if_pos hc, if_pos hc]
  · rw [if_neg hc, if_neg hc, if_pos (hd.resolve_left hc), if_pos (hd.resolve_left hc)]

/-- what the goroutine does from the top of `taskLoop` until it blocks -/
structure LoopSpec (s r : S) (outs : List OutS) : Prop where
  suffix : r.tl.tasks <:+ s.tl.tasks
  size   : s.tl.size = s.tl.tasks.length → r.tl.size = r.tl.tasks.length
  now    : r.now = s.now
  prim   : r.primary = s.primary
  cur    : r.cur = s.cur
  cb     : r.cb = s.cb
  /-- it ends inside a `SetDest`: towards the primary destination with nothing queued and nothing held, or
  towards the head of the queue, held, which is neither removed / finished nor past its deadline -/
  ends   : (r.pc = .toPrimary ∧ r.tl.tasks = [] ∧ r.tl.taken = false ∧ outs.getLast? = some (.begin s.primary none)) ∨
           (∃ t rest, r.pc = .toTask t.tid t.dest ∧ r.tl.tasks = t :: rest ∧ r.tl.taken = true ∧
              t.cancelled = false ∧ s.now < t.deadline ∧ outs.getLast? = some (.begin t.dest (some t)))
  /-- every `SetDest` entered for a task is for a task of the queue that is live -/
  begins : ∀ d t, OutS.begin d (some t) ∈ outs → t ∈ s.tl.tasks ∧ t.dest = d ∧ t.cancelled = false ∧ s.now < t.deadline
  /-- every task ended on the way was removed / finished or is past its deadline, and is gone from the queue -/
  ends_ok : ∀ tid rm k, OutS.base (.onEnd tid rm k) ∈ outs → ∃ t ∈ s.tl.tasks, t.tid = tid ∧
              ((k = .done ∧ t.cancelled = true) ∨ (k = .deadline ∧ t.deadline ≤ s.now))
  /-- the `SetDest` entered for a task is the one the goroutine ends up in: that task is the head of what is left -/
  begin_final : ∀ d t, OutS.begin d (some t) ∈ outs → r.tl.taken = true ∧ r.tl.tasks.head? = some t

theorem LoopSpec.retire {s r : S} {o : List OutS} {t : Task} {rest : List Task} {k : EndKind} {amb : Bool} {rm : Int}
    (hl : s.tl.tasks = t :: rest) (hk : (k = .done ∧ t.cancelled = true) ∨ (k = .deadline ∧ t.deadline ≤ s.now))
    (sp : LoopSpec (popS s t.tid amb) r o) : LoopSpec s r (.base (.onEnd t.tid rm k) :: o) :=
  { sp with
    suffix := sp.suffix.trans (List.tail_suffix _)
    size hsz := sp.size (by simp only [popS, hsz, hl, List.tail_cons, List.length_cons]; push_cast; omega)
    ends := by
      rcases sp.ends with ⟨a, b, c, d⟩ | ⟨t', rest', a, b, c, d, e, f⟩
      · exact Or.inl ⟨a, b, c, by rw [List.getLast?_cons, d]; rfl⟩
      · exact Or.inr ⟨t', rest', a, b, c, d, e, by rw [List.getLast?_cons, f]; rfl⟩
    begins d t' h :=
      have ⟨a, b⟩ := sp.begins d t' ((List.mem_cons.mp h).resolve_left nofun)
      ⟨List.mem_of_mem_tail a, b⟩
    ends_ok tid rm' k' h := by
      rcases List.mem_cons.mp h with h | h
      · cases h
        exact ⟨t, hl ▸ List.mem_cons_self, rfl, hk⟩
      · obtain ⟨x, a, b⟩ := sp.ends_ok tid rm' k' h
        exact ⟨x, List.mem_of_mem_tail a, b⟩
    begin_final d t' h := sp.begin_final d t' ((List.mem_cons.mp h).resolve_left nofun) }

/-- stated for `{ s with signal := b }` so that both callers fit: woken while parked the goroutine clears the signal before it
goes round the loop, from `serve` it leaves it as it is; the last two conjuncts are what `LoopSpec` has no field for -/
theorem runLoop_spec (fuel : Nat) : ∀ (s : S) (b : Bool), (s.tl.tasks = [] → s.tl.taken = false) →
    s.tl.tasks.length + (if b then 1 else 0) < fuel → ∀ r o, runLoop fuel { s with signal := b } = (r, o) →
    LoopSpec s r o ∧ r.serial = s.serial ∧ ∀ d x, OutS.base (.setDest d x) ∉ o := by
  induction fuel with
  | zero => omega
  | succ fuel ih =>
    intro s b ht hf r o h
    cases hl : s.tl.tasks with
    | nil =>
      rw [runLoop] at h
      simp only [hl] at h
      cases b with
      | true => exact ih s false ht (by simp at hf ⊢; omega) r o h
      | false =>
        cases h
        exact ⟨{
          suffix := List.suffix_refl _
          size := id
          now := rfl
          prim := rfl
          cur := rfl
          cb := rfl
          ends := Or.inl ⟨rfl, hl, ht hl, rfl⟩
          begins := fun _ _ h => by simp at h
          ends_ok := fun _ _ _ h => by simp at h
          begin_final := fun _ _ h => by simp at h }, rfl, fun _ _ h => by simp at h⟩
    | cons t rest =>
      have sp (amb : Bool) := ih (popS s t.tid amb) b (fun _ => rfl)
        (by rw [hl] at hf; simp only [popS, hl, List.tail_cons, List.length_cons] at hf ⊢; omega) _ _ rfl
      rw [runLoop_cons fuel { s with signal := b } t rest hl] at h
      -- a retired task is reported by an `onEnd`, the rest is the loop from the state without it
      split at h
      next hc =>
        cases h
        obtain ⟨h1, h2, h3⟩ := sp (s.ambig || decide (t.deadline ≤ s.now))
        exact ⟨.retire hl (Or.inl ⟨rfl, hc⟩) h1, h2, fun d x h => h3 d x ((List.mem_cons.mp h).resolve_left nofun)⟩
      split at h
      next hd =>
        cases h
        obtain ⟨h1, h2, h3⟩ := sp s.ambig
        exact ⟨.retire hl (Or.inr ⟨rfl, hd⟩) h1, h2, fun d x h => h3 d x ((List.mem_cons.mp h).resolve_left nofun)⟩
      next hc hd =>
        cases h
        have hc' : t.cancelled = false := eq_false_of_ne_true hc
        exact ⟨{
          suffix := List.suffix_refl _
          size := id
          now := rfl
          prim := rfl
          cur := rfl
          cb := rfl
          ends := Or.inr ⟨t, rest, rfl, hl, rfl, hc', Int.not_le.mp hd, rfl⟩
          begins := fun d t' h => by
            cases List.mem_singleton.mp h
            exact ⟨hl ▸ List.mem_cons_self, rfl, hc', Int.not_le.mp hd⟩
          ends_ok := fun _ _ _ h => by simp at h
          begin_final := fun d t' h => by
            cases List.mem_singleton.mp h
            exact ⟨rfl, congrArg List.head? hl⟩ }, rfl, fun _ _ h => by simp at h⟩

theorem loop_wfs {s r : S} {outs : List OutS} (h : LoopSpec s r outs) (hsz : s.tl.size = s.tl.tasks.length) : WFs r := by
  rcases h.ends with ⟨a, b, c, _⟩ | ⟨t, rest, a, b, c, _, _, _⟩
  · exact ⟨h.size hsz, fun _ => by rw [a, c]; rfl, (fun ht => by rw [c] at ht; cases ht), fun tid d hp => by rw [a] at hp; cases hp⟩
  · refine ⟨h.size hsz, fun _ => by rw [a, c]; rfl, fun _ => b ▸ List.cons_ne_nil t rest, fun tid d hp => ?_⟩
    rw [a] at hp
    cases hp
    exact ⟨t, rest, b, rfl, rfl⟩

theorem fuel_ok (s : S) : s.tl.tasks.length + (if s.signal then 1 else 0) < fuelFor s := by
  unfold fuelFor; split <;> omega

/-- waking the goroutine: the queue only loses a prefix, and every `SetDest` it enters for a task is for a queued
task that is neither removed / finished nor past its deadline -/
structure WakeSpec (s r : S) (outs : List OutS) : Prop where
  suffix : r.tl.tasks <:+ s.tl.tasks
  begins : ∀ d t, OutS.begin d (some t) ∈ outs → t ∈ s.tl.tasks ∧ t.dest = d ∧ t.cancelled = false ∧ s.now < t.deadline
  ends_ok : ∀ tid rm k, OutS.base (.onEnd tid rm k) ∈ outs → ∃ t ∈ s.tl.tasks, t.tid = tid ∧
              ((k = .done ∧ t.cancelled = true) ∨ (k = .deadline ∧ t.deadline ≤ s.now))
  nosetdest : ∀ d b, OutS.base (.setDest d b) ∉ outs
  now    : r.now = s.now
  cur    : r.cur = s.cur
  cb     : r.cb = s.cb
  prim   : r.primary = s.primary
  wf     : WFs r
  begin_final : ∀ d t, OutS.begin d (some t) ∈ outs → r.tl.taken = true ∧ r.tl.tasks.head? = some t
  begins_tail : s.tl.taken = true → ∀ d t, OutS.begin d (some t) ∈ outs → t ∈ s.tl.tasks.tail
  held_then : r.tl.taken = true → (∃ d t, OutS.begin d (some t) ∈ outs) ∨ (r.tl.tasks = s.tl.tasks ∧ s.tl.taken = true)
  dropped_head : s.tl.taken = true → r.tl.taken = false → r.tl.tasks <:+ s.tl.tasks.tail

theorem WakeSpec.refl {s : S} (hw : WFs s) : WakeSpec s s [] where
  suffix := List.suffix_refl _
  begins _ _ h := nomatch h
  ends_ok _ _ _ h := nomatch h
  nosetdest _ _ h := nomatch h
  now := rfl
  cur := rfl
  cb := rfl
  prim := rfl
  wf := hw
  begin_final _ _ h := nomatch h
  begins_tail _ _ _ h := nomatch h
  held_then h := Or.inr ⟨rfl, h⟩
  dropped_head h1 h2 := by rw [h1] at h2; cases h2

theorem WFs.taken_eq {s : S} (hw : WFs s) {pc : Pc} (hp : s.pc = pc) (hne : pc ≠ .exited) : s.tl.taken = holds pc :=
  hp ▸ hw.taken (hp ▸ hne)

/-- the goroutine goes round the loop: either it held nothing, or it held a head that is removed / finished or past its
deadline -/
theorem loop_to_wake (s : S) (b : Bool) (fuel : Nat) (hw : WFs s) (hf : s.tl.tasks.length + (if b then 1 else 0) < fuel)
    (hhd : s.tl.taken = true → ∃ t rest, s.tl.tasks = t :: rest ∧ (t.cancelled = true ∨ t.deadline ≤ s.now)) :
    WakeSpec s (runLoop fuel { s with signal := b }).1 (runLoop fuel { s with signal := b }).2 ∧
    (runLoop fuel { s with signal := b }).1.serial = s.serial := by
  obtain ⟨h, hser, hno⟩ := runLoop_spec fuel s b (fun hl => eq_false_of_ne_true fun ht => hw.head ht hl) hf _ _ rfl
  exact ⟨{ h with
    nosetdest := hno
    wf := loop_wfs h hw.size
    begins_tail := fun ht d t hm => by
      obtain ⟨t0, rest, hl, hd⟩ := hhd ht
      obtain ⟨hm, _, hc, hlt⟩ := h.begins d t hm
      rw [hl] at hm ⊢
      rcases List.mem_cons.mp hm with rfl | hm
      · rcases hd with hd | hd
        · rw [hd] at hc; cases hc
        · omega
      · exact hm
    held_then := fun ht => by
      rcases h.ends with ⟨_, _, c, _⟩ | ⟨t, rest, _, _, _, _, _, f⟩
      · rw [c] at ht; cases ht
      · exact Or.inl ⟨t.dest, t, List.mem_of_getLast? f⟩
    dropped_head := fun ht hr => by
      rcases h.ends with ⟨_, b, _, _⟩ | ⟨_, _, _, _, c, _⟩
      · rw [b]; exact List.nil_suffix
      · rw [c] at hr; cases hr }, hser⟩

/-- `WakeSpec` has no field for the serial: it is left alone as well -/
theorem wake_spec (s : S) (hw : WFs s) : WakeSpec s (wake s).1 (wake s).2 ∧ (wake s).1.serial = s.serial := by
  unfold wake
  split
  · rename_i hpc
    split
    · exact loop_to_wake s false _ hw (by simp [fuelFor]; omega) fun h => by rw [hw.taken_eq hpc nofun] at h; cases h
    · exact ⟨.refl hw, rfl⟩
  · rename_i hpc
    have htk : s.tl.taken = true := hw.taken_eq hpc nofun
    cases hl : s.tl.tasks with
    | nil => exact absurd hl (hw.head htk)
    | cons t rest =>
      by_cases hd : t.cancelled = true ∨ t.deadline ≤ s.now
      · rw [serve_dead _ s t rest htk hl hd]
        exact loop_to_wake s s.signal _ hw (Nat.lt_succ_of_lt (fuel_ok s)) fun _ => ⟨t, rest, hl, hd⟩
      · have e : serve (fuelFor s) s = (s, []) := by
          have : ({ s with pc := .serving } : S) = s := by rw [← hpc]
          unfold serve
          rw [not_or] at hd
          simp only [hl, hd.1, hd.2, Bool.false_eq_true, if_false, this]
        rw [e]
        exact ⟨.refl hw, rfl⟩
  · exact ⟨.refl hw, rfl⟩

/-- every queued task of the contract has been removed / finished (only the one the goroutine holds can still be queued) -/
def Clean (cid : String) (s : S) : Prop := ∀ t ∈ s.tl.tasks, t.cid = cid → t.cancelled = true

def NoBegin (cid : String) (outs : List OutS) : Prop := ∀ d t, OutS.begin d (some t) ∈ outs → t.cid ≠ cid

theorem wake_clean (s : S) (cid : String) (hw : WFs s) (hc : Clean cid s) :
    Clean cid (wake s).1 ∧ NoBegin cid (wake s).2 := by
  have sp := (wake_spec s hw).1
  refine ⟨fun t ht => hc t (sp.suffix.subset ht), fun d t h hcid => ?_⟩
  obtain ⟨hm, _, hcanc, _⟩ := sp.begins d t h
  rw [hc t hm hcid] at hcanc
  cases hcanc

/-- `b` is the id of the task a `SetDest` was last entered for (−1: none yet): from `b` the ids increase along the queued
tasks the goroutine does not hold, and stay below the next id to be given out; the task it holds is the one with id `b` -/
structure OrdInv (s : S) (b : Int) : Prop where
  ladder : (b :: (pending s.tl).map (fun t => (t.tid : Int)) ++ [(s.serial : Int)]).Pairwise (· < ·)
  held : s.tl.taken = true → ∃ t rest, s.tl.tasks = t :: rest ∧ (t.tid : Int) = b

/-- an update of the state that only thins out the tasks not held, and keeps the id of the one held -/
theorem OrdInv.mono {s s' : S} {b : Int} (h : OrdInv s b)
    (hp : ((pending s'.tl).map (fun t => (t.tid : Int))).Sublist ((pending s.tl).map (fun t => (t.tid : Int))))
    (hser : s'.serial = s.serial) (hheld : s'.tl.taken = true → ∃ t rest, s'.tl.tasks = t :: rest ∧ (t.tid : Int) = b) :
    OrdInv s' b :=
  ⟨h.ladder.sublist (by rw [hser]; exact (hp.cons_cons b).append (List.Sublist.refl _)), hheld⟩

/-- the whole queue, held head included, is on the ladder -/
theorem OrdInv.tasks {s : S} {b : Int} (h : OrdInv s b) :
    (s.tl.tasks.map (fun t => (t.tid : Int)) ++ [(s.serial : Int)]).Sublist
      (b :: (pending s.tl).map (fun t => (t.tid : Int)) ++ [(s.serial : Int)]) := by
  unfold pending
  cases ht : s.tl.taken with
  | false => exact List.sublist_cons_self _ _
  | true =>
    obtain ⟨t, rest, hl, hb⟩ := h.held ht
    simp only [hl, List.map_cons, hb, if_true, List.tail_cons]
    exact List.Sublist.refl _

/-- waking the goroutine from an ordered state: every `SetDest` it enters is for a task that arrived after the one it
last entered one for (`b`), and that task is then the last (`b'`) -/
theorem wake_ord (s : S) (b : Int) (hw : WFs s) (h : OrdInv s b) :
    ∃ b', OrdInv (wake s).1 b' ∧ b ≤ b' ∧ ∀ d t, OutS.begin d (some t) ∈ (wake s).2 → b < (t.tid : Int) ∧ (t.tid : Int) ≤ b' := by
  obtain ⟨sp, hser⟩ := wake_spec s hw
  by_cases hb : ∃ d t, OutS.begin d (some t) ∈ (wake s).2
  · obtain ⟨d, t, hm⟩ := hb
    obtain ⟨htk, hhead⟩ := sp.begin_final d t hm
    obtain ⟨rest, hl⟩ := List.head?_eq_some_iff.mp hhead
    -- the task begun was not held: it lies beyond `b`
    have hpend : t ∈ pending s.tl := by
      unfold pending
      split
      · rename_i ht; exact sp.begins_tail ht d t hm
      · exact (sp.begins d t hm).1
    have hlt : b < (t.tid : Int) :=
      List.rel_of_pairwise_cons h.ladder (List.mem_append_left _ (List.mem_map_of_mem hpend))
    refine ⟨t.tid, ⟨?_, fun _ => ⟨t, rest, hl, rfl⟩⟩, Int.le_of_lt hlt, fun d2 t2 hm2 => ?_⟩
    · have := h.ladder.sublist (((sp.suffix.sublist.map (fun t => (t.tid : Int))).append (List.Sublist.refl _)).trans h.tasks)
      simpa only [pending, htk, hl, hser, if_true, List.tail_cons, List.map_cons] using this
    · cases hhead.symm.trans (sp.begin_final d2 t2 hm2).2
      exact ⟨hlt, Int.le_refl _⟩
  · refine ⟨b, ?_, Int.le_refl _, fun d t hm => absurd ⟨d, t, hm⟩ hb⟩
    cases htk : (wake s).1.tl.taken with
    | true =>
      obtain ⟨he, hs⟩ := (sp.held_then htk).resolve_left hb
      exact h.mono (by unfold pending; rw [htk, he, hs]; exact List.Sublist.refl _) hser fun _ => he ▸ h.held hs
    | false =>
      refine h.mono (List.Sublist.map _ ?_) hser fun ht => by rw [htk] at ht; cases ht
      simp only [pending, htk, Bool.false_eq_true, if_false]
      split
      · rename_i hs; exact (sp.dropped_head hs htk).sublist
      · exact sp.suffix.sublist

/-! ### what each event does to the queue before the goroutine is woken -/

/-- a change of the queue that leaves alone whether the head is held, and the id and destination of a held head -/
theorem wfs_tl (s s' : S) (hw : WFs s) (hpc : s'.pc = s.pc) (hsz : s'.tl.size = s'.tl.tasks.length)
    (ht : s'.tl.taken = s.tl.taken)
    (hhd : ∀ t rest, s.tl.taken = true → s.tl.tasks = t :: rest →
      ∃ t' rest', s'.tl.tasks = t' :: rest' ∧ t'.tid = t.tid ∧ t'.dest = t.dest) : WFs s' where
  size := hsz
  taken hne := by rw [ht, hpc]; exact hw.taken (hpc ▸ hne)
  head h := by
    rw [ht] at h
    cases hl : s.tl.tasks with
    | nil => exact absurd hl (hw.head h)
    | cons t rest =>
      obtain ⟨t', rest', e, _⟩ := hhd t rest h hl
      exact e ▸ List.cons_ne_nil t' rest'
  toTask tid d hp := by
    rw [hpc] at hp
    obtain ⟨t, rest, e, a, b⟩ := hw.toTask tid d hp
    obtain ⟨t', rest', e', a', b'⟩ := hhd t rest (hw.taken_eq hp nofun) e
    exact ⟨t', rest', e', a'.trans a, b'.trans b⟩

/-- an update of the queue, of the clock or of what the proxy holds, with what it reports at once: it enters no `SetDest`
and keeps the invariants; `adds cid`: it may queue a task of contract `cid` -/
structure Quiet (adds : String → Prop) (s : S) (o : List OutS) (r : S) : Prop where
  nobegin : ∀ d t, OutS.begin d t ∉ o
  wfs : WFs r
  clean : ∀ cid, ¬ adds cid → Clean cid s → Clean cid r
  ord : ∀ b, OrdInv s b → OrdInv r b

theorem Quiet.refl (adds : String → Prop) (s : S) (hw : WFs s) : Quiet adds s [] s :=
  ⟨(fun _ _ h => nomatch h), hw, fun _ _ hc => hc, fun _ h => h⟩

theorem quiet_base (adds : String → Prop) (s : S) (o : Out) (hw : WFs s) : Quiet adds s [.base o] s :=
  ⟨fun d t h => by simp at h, hw, fun _ _ hc => hc, fun _ h => h⟩

theorem quiet_add (s : S) (c dest : String) (job dl : Int) (hw : WFs s) : Quiet (c = ·) s [] (addTask s c dest job dl) where
  nobegin _ _ h := nomatch h
  wfs := wfs_tl s _ hw rfl (add_size _ _ hw.size) rfl fun t _ _ e => ⟨t, _, add_cons _ e, rfl, rfl⟩
  clean cid hne hc t ht hcid := by
    rcases List.mem_append.mp ht with ht | ht
    · exact hc t ht hcid
    · cases List.mem_singleton.mp ht
      exact absurd hcid hne
  ord b h := {
    ladder := by
      -- the new id goes on top of the ladder
      have := pairwise_snoc (m := ((s.serial + 1 : Nat) : Int)) h.ladder (by push_cast; omega)
      simpa only [addTask, pending_add _ _ hw.head, List.map_append, List.map_cons, List.map_nil,
        List.cons_append] using this
    held := fun ht =>
      have ⟨t, rest, hl, hb⟩ := h.held ht
      ⟨t, _, add_cons _ hl, hb⟩ }

theorem wfs_cancel (s : S) (cid : String) (hw : WFs s) : WFs { s with tl := s.tl.cancel cid } :=
  wfs_tl s _ hw rfl (cancel_size _ _ hw.size) (cancel_taken _ _) (cancel_head s.tl cid)

theorem cancel_cleans (s : S) (cid : String) : Clean cid { s with tl := s.tl.cancel cid } :=
  fun t ht hcid => (cancel_mem s.tl cid t ht).2 hcid

theorem quiet_cancel (adds : String → Prop) (s : S) (c : String) (hw : WFs s) : Quiet adds s [] { s with tl := s.tl.cancel c } where
  nobegin _ _ h := nomatch h
  wfs := wfs_cancel s c hw
  clean cid _ hc t ht hcid := by
    obtain ⟨⟨t0, hm, e | e⟩, _⟩ := cancel_mem s.tl c t ht
    · exact hc t (e ▸ hm) hcid
    · rw [e]
  ord b h := h.mono (by simp only [cancel_pending]; exact List.filter_sublist.map _) rfl fun ht => by
    simp only [cancel_taken] at ht
    obtain ⟨t, rest, hl, hb⟩ := h.held ht
    obtain ⟨t', rest', e, htid, _⟩ := cancel_head s.tl c t rest ht hl
    exact ⟨t', rest', e, htid ▸ hb⟩

/-! `WFs`, `Clean` and `OrdInv` read neither `now` nor `rem`: the fields of the old proofs are the new ones. -/

theorem quiet_now (adds : String → Prop) (s : S) (n : Int) (hw : WFs s) : Quiet adds s [] { s with now := n } :=
  ⟨(fun _ _ h => nomatch h), ⟨hw.size, hw.taken, hw.head, hw.toTask⟩, fun _ _ hc => hc, fun _ h => ⟨h.ladder, h.held⟩⟩

theorem quiet_setRem (adds : String → Prop) (s : S) (tid : Nat) (v : Int) (hw : WFs s) : Quiet adds s [] (setRem s tid v) :=
  ⟨(fun _ _ h => nomatch h), ⟨hw.size, hw.taken, hw.head, hw.toTask⟩, fun _ _ hc => hc, fun _ h => ⟨h.ladder, h.held⟩⟩

/-- `task.Cancel()` marks queue entries: ids, destinations and contracts stay -/
theorem quiet_markDone (adds : String → Prop) (s : S) (tid : Nat) (hw : WFs s) : Quiet adds s [] (markDone s tid) where
  nobegin _ _ h := nomatch h
  wfs := wfs_tl s _ hw rfl (by simpa [markDone] using hw.size) rfl fun t rest _ e =>
    ⟨_, _, congrArg (List.map _) e, by dsimp only; split <;> rfl, by dsimp only; split <;> rfl⟩
  clean cid _ hc t ht hcid := by
    obtain ⟨t0, hm, rfl⟩ := List.mem_map.mp ht
    by_cases h : t0.tid = tid
    · simp only [h, if_true]
    · simp only [h, if_false] at hcid ⊢
      exact hc t0 hm hcid
  ord b h := by
    refine h.mono ?_ rfl fun ht => ?_
    · unfold pending markDone
      split <;> simp [apply_ite, Function.comp_def]
    · obtain ⟨t, rest, hl, hb⟩ := h.held ht
      exact ⟨_, _, congrArg (List.map _) hl, by dsimp only; split <;> exact hb⟩

/-- the proxy's `SetDest` returns: nothing about the queue changes, and the goroutine still holds what it held -/
theorem quiet_arrive (adds : String → Prop) (s : S) (hw : WFs s) : Quiet adds s (arrive s).2 (arrive s).1 := by
  unfold arrive
  split
  · rename_i hpc
    have ht : s.tl.taken = false := hw.taken_eq hpc nofun
    exact ⟨fun d t h => by simp at h, ⟨hw.size, fun _ => ht, hw.head, nofun⟩, fun _ _ hc => hc, fun _ h => ⟨h.ladder, h.held⟩⟩
  · rename_i tid dest hpc
    have ht : s.tl.taken = true := hw.taken_eq hpc nofun
    exact ⟨fun d t h => by simp at h, ⟨hw.size, fun _ => ht, hw.head, nofun⟩, fun _ _ hc => hc, fun _ h => ⟨h.ladder, h.held⟩⟩
  · exact .refl adds s hw

/-- the proxy's `Run` returned: the task held is dropped, nothing else changes in the queue -/
theorem quiet_leave (adds : String → Prop) (s : S) (hw : WFs s) : Quiet adds s (leave s).2 (leave s).1 := by
  unfold leave
  split
  · exact .refl adds s hw
  · exact .refl adds s hw
  · obtain ⟨hsz, htk, hts⟩ := dropInService_spec s.tl hw.size hw.head
    exact {
      nobegin := fun d t h => by
        simp only [List.mem_append, disconnectOuts, List.mem_flatMap, List.mem_cons, List.not_mem_nil, or_false, reduceCtorEq,
          and_false, exists_false] at h
        split at h <;> simp at h
      wfs := ⟨hsz, fun h => absurd rfl h, (fun h => by rw [htk] at h; cases h), nofun⟩
      clean := fun cid _ hc t ht => hc t ((pending_suffix s.tl).subset (hts ▸ ht))
      ord := fun b h => h.mono (by unfold pending; rw [htk, hts]; exact List.Sublist.refl _) rfl fun h' => by
        rw [htk] at h'; cases h' }

end PRV.Proofs.C07Slow
