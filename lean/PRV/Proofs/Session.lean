import PRV.Model.Session
/-
Lemmas about the session model shared by C02, C03, C04, C13: what `submitSync`, `fallback`,
`acquire`, `evict` and `switchWith` return, case by case.
-/
namespace PRV.Proofs.Session
open PRV.Model.Session

/-- the ledgers of a session (everything a share can be credited to), and the callback and assignment `book` reads -/
structure SameLedgers (s t : Sess) : Prop where
  minerWork : t.minerWork = s.minerWork
  workerWork : t.workerWork = s.workerWork
  minerShares : t.minerShares = s.minerShares
  srcAcc : t.srcAcc = s.srcAcc
  srcRej : t.srcRej = s.srcRej
  srcAccTheyRej : t.srcAccTheyRej = s.srcAccTheyRej
  srcRejTheyAcc : t.srcRejTheyAcc = s.srcRejTheyAcc
  cb : t.cb = s.cb
  active : t.active = s.active

theorem sameLedgers_refl (s : Sess) : SameLedgers s s := ⟨rfl, rfl, rfl, rfl, rfl, rfl, rfl, rfl, rfl⟩

theorem sameLedgers_dests (s : Sess) (ds : List Dest) (amb : Bool) :
    SameLedgers s { s with dests := ds, ambiguous := amb } := ⟨rfl, rfl, rfl, rfl, rfl, rfl, rfl, rfl, rfl⟩

theorem findDest_key {s : Sess} {k : String × String} {d : Dest} (h : findDest s k = some d) : d.key = k := by
  simpa using List.find?_some h

theorem activeDest_key {s : Sess} {a : Dest} (h : activeDest s = some a) : s.active = some a.key := by
  obtain ⟨k, hk, hd⟩ := Option.bind_eq_some_iff.mp h
  rw [hk, findDest_key hd]

theorem submitSync_eq_none {pow : Pow} {s : Sess} {jobId : String} {share : List Nat} {nm : String} :
    submitSync pow s jobId share nm = none ↔ activeDest s = none := by
  unfold submitSync; split <;> simp [*]

/-- `submitSync` is `book` applied to a state with the ledgers of `s` (routing changes validator
state only), to the active destination's verdict `v.2.1`, and to a verdict `acc` and target `t` that
are one of three: accepted by the active destination; accepted by the cached destination `t` that the
search `fb` found; rejected.  With `acc` a variable, `cases acc` turns `book ..` into a literal record.
Callers pass `rfl rfl` for `hv hfb`.
(`rw [if_pos _]`, not `split_ifs`: the state is a 21-field record that `simp` would walk.) -/
theorem submitSync_spec (pow : Pow) {s : Sess} {a : Dest} (ha : activeDest s = some a) (jobId : String)
    (share : List Nat) (nm : String) {v : Dest × Reply × Option Nat} (hv : validate pow a jobId share nm s.now = v)
    {fb : Option (String × String)}
    (hfb : (fallback pow jobId share nm (setDest' s v.1).now (setDest' s v.1).dests).2 = fb) :
    ∃ s2 acc t, submitSync pow s jobId share nm = some (book s2 a acc t v.2.1 jobId) ∧ SameLedgers s s2 ∧
      ((v.2.1 = .ok ∧ acc = true ∧ t = a.key) ∨
       ((v.2.1 = .jobNotFound ∨ v.2.1 = .lowDiff) ∧ acc = true ∧ fb = some t) ∨
       (v.2.1 ≠ .ok ∧ (v.2.1 = .jobNotFound ∨ v.2.1 = .lowDiff → fb = none) ∧ acc = false ∧ t = a.key)) := by
  unfold submitSync route
  rw [ha]
  dsimp only
  rw [hv, hfb]
  by_cases h1 : v.2.1 = .ok
  · rw [if_pos h1]; exact ⟨_, _, _, rfl, sameLedgers_dests s _ _, .inl ⟨h1, rfl, rfl⟩⟩
  rw [if_neg h1]
  by_cases h2 : v.2.1 = .jobNotFound ∨ v.2.1 = .lowDiff
  · rw [if_pos h2]
    cases fb with
    | some k => exact ⟨_, _, _, rfl, sameLedgers_dests s _ _, .inr (.inl ⟨h2, rfl, rfl⟩)⟩
    | none => exact ⟨_, _, _, rfl, sameLedgers_dests s _ _, .inr (.inr ⟨h1, fun _ => rfl, rfl, rfl⟩)⟩
  · rw [if_neg h2]; exact ⟨_, _, _, rfl, sameLedgers_dests s _ _, .inr (.inr ⟨h1, fun h => absurd h h2, rfl, rfl⟩)⟩

/-- the same without naming the active destination's verdict: the ledgers and the book-keeping -/
theorem submitSync_book {pow : Pow} {s : Sess} {jobId : String} {share : List Nat} {nm : String} {r : SubmitRes}
    (h : submitSync pow s jobId share nm = some r) :
    ∃ a s2 acc t f, activeDest s = some a ∧ SameLedgers s s2 ∧ r = book s2 a acc t f jobId := by
  cases ha : activeDest s with
  | none => rw [submitSync_eq_none.mpr ha] at h; cases h
  | some a =>
    obtain ⟨s2, acc, t, e, l, -⟩ := submitSync_spec pow ha jobId share nm rfl rfl
    exact ⟨a, s2, acc, t, _, rfl, l, Option.some.inj (h.symm.trans e)⟩

theorem fallback_target {pow : Pow} {jobId : String} {share : List Nat} {nm : String} {now : Int}
    {ds : List Dest} {k : String × String} (h : (fallback pow jobId share nm now ds).2 = some k) :
    ∃ d ∈ ds, d.key = k ∧ d.v.hasJob jobId = true ∧ (validate pow d jobId share nm now).2.1 = .ok := by
  fun_induction fallback pow jobId share nm now ds with
  | case1 => cases h
  | case2 d rest hj r hv => exact ⟨d, List.mem_cons_self, Option.some.inj h, hj, hv⟩
  | case3 _ _ _ _ _ _ ih | case4 _ _ _ _ ih =>
    obtain ⟨x, hx, hh⟩ := ih h
    exact ⟨x, List.mem_cons_of_mem _ hx, hh⟩

/-- outputs towards pools: dials and lines written to a pool connection -/
def poolSide : Out → Bool
  | .factory _ _ | .toPool _ _ _ => true
  | _ => false

theorem acquire_spec (s : Sess) (pool : String) (p : PoolCfg) (user : String) :
    (acquire s pool p user).2.1.key = (pool, user) ∧
    (acquire s pool p user).1.dests.length ≤ s.dests.length ∧ (acquire s pool p user).1.maxCached = s.maxCached ∧
    ∀ o ∈ (acquire s pool p user).2.2, poolSide o = true := by
  unfold acquire
  dsimp only
  cases h : findDest s (pool, user) with
  | some d => exact ⟨findDest_key (d := d) h, List.length_filter_le _ _, rfl, List.all_eq_true.mp rfl⟩
  | none => exact ⟨rfl, Nat.le_refl _, rfl, by cases s.vr <;> exact List.all_eq_true.mp rfl⟩

theorem evict_poolSide (s : Sess) (k : String × String) : ∀ o ∈ (evict s k).2, poolSide o = true := by
  fun_cases evict s k <;> exact List.all_eq_true.mp rfl

/-- The three ways `switchWith` ends.  Already there: only the callback changes.  Failure (pool
unknown, another mask granted than the one negotiated, nothing to re-send): pool-side traffic and an
error return; no destination is added.  Success: the acquired destination is installed after the
eviction, and the miner is sent `resend` of it.  (`user` is a variable to keep the statement small:
callers pass `rfl`.) -/
theorem switchWith_cases (s : Sess) (pool : String) (cb : Option Nat) (cbN : Nat)
    {user : String} (hu : "acct" ++ pool ++ ".w" ++ pool = user) :
    (s.active = some (pool, user) ∧
      switchWith s pool cb cbN = ({ s with cb := cb, cbN := cbN }, [Out.session "setdest-ret nil"])) ∨
    (∃ s' pre w, switchWith s pool cb cbN = (s', pre ++ [Out.session w]) ∧ w ≠ "setdest-ret nil" ∧
      (∀ o ∈ pre, poolSide o = true) ∧ s'.dests.length ≤ s.dests.length) ∨
    (∃ p msgs, findPool s pool = some p ∧ resend (acquire s pool p user).2.1 = some msgs ∧
      switchWith s pool cb cbN =
        (install (evict (acquire s pool p user).1 (pool, user)).1 (acquire s pool p user).2.1 cb cbN,
         (acquire s pool p user).2.2 ++ [Out.session "setdest-ret nil"] ++ msgs ++
           (evict (acquire s pool p user).1 (pool, user)).2)) := by
  unfold switchWith
  rw [hu]
  by_cases h1 : s.active = some (pool, user)
  · rw [if_pos h1]; exact .inl ⟨h1, rfl⟩
  rw [if_neg h1]
  refine .inr ?_
  cases hp : findPool s pool with
  | none => exact .inl ⟨_, [_], _, rfl, by simp, List.all_eq_true.mp rfl, Nat.le_refl _⟩
  | some p =>
    dsimp only
    by_cases hm : (findDest s (pool, user)).isNone ∧ s.vr ∧ p.mask ≠ s.negMask
    · rw [if_pos hm]; exact .inl ⟨_, [_, _, _], _, rfl, by simp, List.all_eq_true.mp rfl, Nat.le_refl _⟩
    rw [if_neg hm]
    cases hr : resend (acquire s pool p user).2.1 with
    | none => exact .inl ⟨_, _, _, rfl, by simp, (acquire_spec s pool p user).2.2.2, (acquire_spec s pool p user).2.1⟩
    | some msgs => exact .inr ⟨p, msgs, rfl, hr, rfl⟩

end PRV.Proofs.Session
