import PRV.Model.Sched
/-
Helper lemmas for C07: task list invariants and the run-to-quiescence function.
-/
namespace PRV.Proofs.C07
open PRV.Model.Sched

/-- `t` belongs to another contract than `cid` -/
def other (cid : String) (t : Task) : Bool := !decide (t.cid = cid)

theorem cancelRest_filter (cid : String) (l : List Task) :
    (TaskList.cancelRest cid l).1 = l.filter (other cid) ∧
    (TaskList.cancelRest cid l).2 + (TaskList.cancelRest cid l).1.length = l.length := by
  induction l with
  | nil => exact ⟨rfl, rfl⟩
  | cons t rest ih =>
    unfold TaskList.cancelRest
    by_cases h : t.cid = cid
    · rw [if_pos h, List.filter_cons_of_neg (by simp [other, h])]
      exact ⟨ih.1, by simp only [List.length_cons]; omega⟩
    · rw [if_neg h, List.filter_cons_of_pos (by simp [other, h])]
      exact ⟨by rw [ih.1], by simp only [List.length_cons]; omega⟩

theorem cancel_tasks (l : TaskList) (cid : String) {h : Task} {rest : List Task} (hl : l.tasks = h :: rest) :
    (l.cancel cid).tasks =
        if l.taken = true ∧ h.cid = cid then { h with cancelled := true } :: rest.filter (other cid)
        else (h :: rest).filter (other cid) := by
  unfold TaskList.cancel
  rw [hl]
  simp only [(cancelRest_filter cid _).1]
  split <;> rfl

theorem cancel_nil (l : TaskList) (cid : String) (hl : l.tasks = []) : l.cancel cid = l := by
  unfold TaskList.cancel; rw [hl]

theorem cancel_taken (l : TaskList) (cid : String) : (l.cancel cid).taken = l.taken := by
  fun_cases TaskList.cancel l cid <;> rfl

theorem cancel_size (l : TaskList) (cid : String) (h : l.size = l.tasks.length) :
    (l.cancel cid).size = (l.cancel cid).tasks.length := by
  unfold TaskList.cancel
  cases hl : l.tasks with
  | nil => simpa using h
  | cons t rest =>
    have h1 := (cancelRest_filter cid rest).2
    have h2 := (cancelRest_filter cid (t :: rest)).2
    rw [hl] at h
    dsimp only
    split
    · simp only [List.length_cons] at h ⊢; omega
    · dsimp only; omega

theorem mem_other {cid : String} {l : List Task} {t : Task} (h : t ∈ l.filter (other cid)) : t ∈ l ∧ t.cid ≠ cid :=
  ⟨(List.mem_filter.mp h).1, by simpa [other] using (List.mem_filter.mp h).2⟩

theorem suffix_tail {α : Type} {a b : List α} (h : a <:+ b) : a.tail <:+ b.tail := by
  obtain ⟨pre, rfl⟩ := h
  cases pre with
  | nil => exact List.suffix_refl _
  | cons x pre => exact (List.tail_suffix a).trans (List.suffix_append pre a)

theorem pairwise_snoc {α : Type} {R : α → α → Prop} [Trans R R R] {l : List α} {n m : α} (h : (l ++ [n]).Pairwise R)
    (hm : R n m) : (l ++ [n] ++ [m]).Pairwise R := by
  refine List.pairwise_append.mpr ⟨h, List.pairwise_singleton _ _, fun a ha c hc => ?_⟩
  rw [List.mem_singleton.mp hc]
  rcases List.mem_append.mp ha with ha | ha
  · exact Trans.trans ((List.pairwise_append.mp h).2.2 a ha n List.mem_cons_self) hm
  · rw [List.mem_singleton.mp ha]; exact hm

/-- the queued tasks that are not in service -/
def pending (l : TaskList) : List Task := if l.taken then l.tasks.tail else l.tasks

theorem pending_suffix (l : TaskList) : pending l <:+ l.tasks := by
  unfold pending
  split
  · exact List.tail_suffix _
  · exact List.suffix_refl _

theorem tail_suffix_pending (l : TaskList) : l.tasks.tail <:+ pending l := by
  unfold pending
  split
  · exact List.suffix_refl _
  · exact List.tail_suffix _

theorem add_size (l : TaskList) (t : Task) (h : l.size = l.tasks.length) : (l.add t).1.size = (l.add t).1.tasks.length := by
  simp [TaskList.add, h]

theorem add_cons {l : TaskList} {h : Task} {rest : List Task} (t : Task) (e : l.tasks = h :: rest) :
    (l.add t).1.tasks = h :: (rest ++ [t]) := by
  rw [TaskList.add, e]
  rfl

theorem pending_add (l : TaskList) (t : Task) (h : l.taken = true → l.tasks ≠ []) :
    pending (l.add t).1 = pending l ++ [t] := by
  unfold pending TaskList.add
  cases ht : l.taken with
  | true => exact List.tail_append_of_ne_nil (h ht)
  | false => rfl

theorem cancel_head (l : TaskList) (cid : String) (t0 : Task) (rest : List Task) (ht : l.taken = true)
    (hl : l.tasks = t0 :: rest) :
    ∃ t' rest', (l.cancel cid).tasks = t' :: rest' ∧ t'.tid = t0.tid ∧ t'.dest = t0.dest := by
  rw [cancel_tasks l cid hl]
  by_cases hc : t0.cid = cid
  · exact ⟨_, _, if_pos ⟨ht, hc⟩, rfl, rfl⟩
  · exact ⟨_, _, (if_neg fun h => hc h.2).trans (List.filter_cons_of_pos (by simp [other, hc])), rfl, rfl⟩

theorem cancel_pending (l : TaskList) (cid : String) : pending (l.cancel cid) = (pending l).filter (other cid) := by
  unfold pending
  rw [cancel_taken]
  cases hl : l.tasks with
  | nil => rw [cancel_nil l cid hl, hl]; split <;> rfl
  | cons t0 rest =>
    rw [cancel_tasks l cid hl]
    cases ht : l.taken with
    | false => simp
    | true =>
      by_cases hc : t0.cid = cid
      · simp [hc]
      · simp [hc, List.filter_cons_of_pos (show other cid t0 = true by simp [other, hc])]

theorem cancel_mem (l : TaskList) (cid : String) (t' : Task) (h : t' ∈ (l.cancel cid).tasks) :
    (∃ t ∈ l.tasks, t' = t ∨ t' = { t with cancelled := true }) ∧ (t'.cid = cid → t'.cancelled = true) := by
  cases hl : l.tasks with
  | nil => rw [cancel_nil l cid hl, hl] at h; cases h
  | cons h0 rest =>
    rw [cancel_tasks l cid hl] at h
    split at h
    · rcases List.mem_cons.mp h with h | h
      · exact ⟨⟨h0, List.mem_cons_self, Or.inr h⟩, fun _ => by rw [h]⟩
      · exact ⟨⟨t', List.mem_cons_of_mem _ (mem_other h).1, Or.inl rfl⟩, fun e => absurd e (mem_other h).2⟩
    · exact ⟨⟨t', (mem_other h).1, Or.inl rfl⟩, fun e => absurd e (mem_other h).2⟩

theorem cancel_sublist {α : Type} (f : Task → α) (hf : ∀ t : Task, f { t with cancelled := true } = f t)
    (l : TaskList) (cid : String) : ((l.cancel cid).tasks.map f).Sublist (l.tasks.map f) := by
  cases hl : l.tasks with
  | nil => rw [cancel_nil _ _ hl, hl]; exact List.Sublist.refl _
  | cons t0 rest =>
    rw [cancel_tasks _ _ hl]
    split
    · rw [List.map_cons, hf]
      exact (List.filter_sublist.map f).cons_cons _
    · exact List.filter_sublist.map f

theorem dropInService_spec (l : TaskList) (hsz : l.size = l.tasks.length) (hhd : l.taken = true → l.tasks ≠ []) :
    (dropInService l).size = (dropInService l).tasks.length ∧ (dropInService l).taken = false ∧
    (dropInService l).tasks = pending l := by
  unfold dropInService TaskList.unlockAndRemove pending
  cases ht : l.taken with
  | false => exact ⟨hsz, ht, rfl⟩
  | true =>
    cases hl : l.tasks with
    | nil => exact absurd hl (hhd ht)
    | cons t rest =>
      rw [hl] at hsz
      simp only [Bool.not_true, Bool.false_eq_true, if_false, if_true, List.tail_cons, List.length_cons] at hsz ⊢
      exact ⟨by push_cast at hsz; omega, trivial, trivial⟩

/-- well-formedness of a scheduler state between events -/
structure WF (s : Sched) : Prop where
  size  : s.tl.size = s.tl.tasks.length
  taken : s.tl.taken = true → ∃ t rest, s.tl.tasks = t :: rest ∧ s.cur = t.dest ∧ s.cb = some t.tid ∧ s.idle = false
  idle  : s.idle = true → s.cur = s.primary ∧ s.cb = none ∧ s.tl.taken = false

/-- the scheduler goroutine is blocked: parked on the primary destination with an empty queue, or
serving the head of the queue, which is neither finished, removed nor expired -/
def Quiescent (s : Sched) : Prop :=
  s.exited = true ∨
  (s.tl.tasks = [] ∧ s.tl.taken = false ∧ s.idle = true ∧ s.cur = s.primary ∧ s.cb = none) ∨
  (∃ t rest, s.tl.tasks = t :: rest ∧ s.tl.taken = true ∧ t.cancelled = false ∧ s.now < t.deadline ∧
    s.cur = t.dest ∧ s.cb = some t.tid)

structure SettleSpec (s r : Sched) (outs : List Out) : Prop where
  wf        : WF r
  quiescent : Quiescent r
  suffix    : r.tl.tasks <:+ s.tl.tasks
  setdest   : ∀ d, Out.setDest d true ∈ outs →
                ∃ t ∈ (if s.tl.taken then s.tl.tasks.tail else s.tl.tasks), t.dest = d ∧ t.cancelled = false
  onend     : ∀ tid r k, Out.onEnd tid r k ∈ outs → ∃ t ∈ s.tl.tasks, t.tid = tid ∧ t.remaining = r ∧
                ((k = .done ∧ t.cancelled = true) ∨ (k = .deadline ∧ t.deadline ≤ s.now))
  primary   : r.primary = s.primary
  now       : r.now = s.now
  serial    : r.serial = s.serial
  exited    : r.exited = s.exited

theorem WF.head {s : Sched} (h : WF s) (ht : s.tl.taken = true) : s.tl.tasks ≠ [] := by
  obtain ⟨t, rest, e, _⟩ := h.taken ht
  exact e ▸ List.cons_ne_nil t rest

theorem wf_free (s : Sched) (hsz : s.tl.size = s.tl.tasks.length) (ht : s.tl.taken = false)
    (hi : s.idle = true → s.cur = s.primary ∧ s.cb = none) : WF s :=
  ⟨hsz, (fun h => by rw [ht] at h; cases h), fun h => ⟨(hi h).1, (hi h).2, ht⟩⟩

/-- the state after the task in service has been retired -/
def pop (s : Sched) : Sched :=
  { s with tl := { tasks := s.tl.tasks.tail, taken := false, size := s.tl.size - 1 }, idle := false }

theorem wf_pop {s : Sched} {t : Task} {rest : List Task} (h : WF s) (hl : s.tl.tasks = t :: rest) : WF (pop s) where
  size := by
    have := h.size
    simp only [pop, hl, List.tail_cons, List.length_cons] at this ⊢
    omega
  taken := nofun
  idle := nofun

/-- `settle` at a non-empty queue of a well-formed state: whether the head is already in service or is taken now, it
is retired to the same state (the task in service is retired from a state that is not idle) -/
theorem settle_cons (fuel : Nat) (s : Sched) (t : Task) (rest : List Task) (hw : WF s) (hex : s.exited = false)
    (hl : s.tl.tasks = t :: rest) : settle (fuel + 1) s =
      if t.cancelled then ((settle fuel (pop s)).1, .onEnd t.tid t.remaining .done :: (settle fuel (pop s)).2)
      else if t.deadline ≤ s.now then
        ((settle fuel (pop s)).1, .onEnd t.tid t.remaining .deadline :: (settle fuel (pop s)).2)
      else if s.tl.taken then (s, [])
      else ({ s with tl := { s.tl with taken := true }, idle := false, cur := t.dest, cb := some t.tid },
            [.setDest t.dest true]) := by
  rw [settle]
  cases ht : s.tl.taken with
  | true =>
    obtain ⟨_, _, _, _, _, hi⟩ := hw.taken ht
    simp only [hex, hl, ht, hi, retire, TaskList.unlockAndRemove, pop, Bool.false_eq_true, if_false, if_true, Bool.not_true,
      List.tail_cons]
    rfl
  | false =>
    simp only [hex, hl, retire, TaskList.unlockAndRemove, pop, Bool.false_eq_true, if_false, Bool.not_true, List.tail_cons]
    rfl

theorem SettleSpec.refl {s : Sched} (hw : WF s) (hq : Quiescent s) : SettleSpec s s [] where
  wf := hw
  quiescent := hq
  suffix := List.suffix_refl _
  setdest _ h := nomatch h
  onend _ _ _ h := nomatch h
  primary := rfl
  now := rfl
  serial := rfl
  exited := rfl

theorem SettleSpec.retire {s r : Sched} {o : List Out} {t : Task} {rest : List Task} {k : EndKind}
    (hl : s.tl.tasks = t :: rest) (hk : (k = .done ∧ t.cancelled = true) ∨ (k = .deadline ∧ t.deadline ≤ s.now))
    (sp : SettleSpec (pop s) r o) : SettleSpec s r (.onEnd t.tid t.remaining k :: o) :=
  { sp with
    suffix := sp.suffix.trans (List.tail_suffix _)
    setdest d hd := by
      obtain ⟨x, hx, hxd⟩ := sp.setdest d ((List.mem_cons.mp hd).resolve_left nofun)
      exact ⟨x, (tail_suffix_pending s.tl).subset hx, hxd⟩
    onend tid r' k' hd := by
      rcases List.mem_cons.mp hd with hd | hd
      · cases hd
        exact ⟨t, hl ▸ List.mem_cons_self, rfl, rfl, hk⟩
      · obtain ⟨x, hx, hxd⟩ := sp.onend tid r' k' hd
        exact ⟨x, List.mem_of_mem_tail hx, hxd⟩ }

theorem settle_spec (fuel : Nat) : ∀ (s : Sched), WF s → s.tl.tasks.length < fuel →
    SettleSpec s (settle fuel s).1 (settle fuel s).2 := by
  induction fuel with
  | zero => omega
  | succ fuel ih =>
    intro s hw hf
    cases hex : s.exited with
    | true =>
      unfold settle
      rw [if_pos hex]
      exact .refl hw (Or.inl hex)
    | false =>
    cases hl : s.tl.tasks with
    | nil =>
      have hnt : s.tl.taken = false := eq_false_of_ne_true fun ht => hw.head ht hl
      unfold settle
      simp only [hex, hl, Bool.false_eq_true, if_false]
      split
      next hi =>
        obtain ⟨a, b, c⟩ := hw.idle hi
        exact .refl hw (Or.inr (Or.inl ⟨hl, c, hi, a, b⟩))
      · exact {
          wf := wf_free _ hw.size hnt fun _ => ⟨rfl, rfl⟩
          quiescent := Or.inr (Or.inl ⟨hl, hnt, rfl, rfl, rfl⟩)
          suffix := List.suffix_refl _
          setdest := fun _ h => by simp at h
          onend := fun _ _ _ h => by simp at h
          primary := rfl
          now := rfl
          serial := rfl
          exited := hex.symm }
    | cons t rest =>
      have sp := ih _ (wf_pop hw hl) (by rw [hl] at hf; simpa [pop, hl] using hf)
      rw [settle_cons fuel s t rest hw hex hl]
      split
      next hc => exact .retire hl (Or.inl ⟨rfl, hc⟩) sp
      split
      next hd => exact .retire hl (Or.inr ⟨rfl, hd⟩) sp
      split
      next hc hd ht =>
        obtain ⟨t', rest', e, hcur, hcb, _⟩ := hw.taken ht
        rw [hl] at e; cases e
        exact .refl hw (Or.inr (Or.inr ⟨t, rest, hl, ht, eq_false_of_ne_true hc, Int.not_le.mp hd, hcur, hcb⟩))
      next hc hd ht =>
        exact {
          wf := ⟨hw.size, fun _ => ⟨t, rest, hl, rfl, rfl, rfl⟩, nofun⟩
          quiescent := Or.inr (Or.inr ⟨t, rest, hl, rfl, eq_false_of_ne_true hc, Int.not_le.mp hd, rfl, rfl⟩)
          suffix := List.suffix_refl _
          setdest := fun d hd' => by
            cases List.mem_singleton.mp hd'
            exact ⟨t, by simp [ht, hl], rfl, eq_false_of_ne_true hc⟩
          onend := fun _ _ _ h => by simp at h
          primary := rfl
          now := rfl
          serial := rfl
          exited := rfl }

theorem fuel_ok (s : Sched) : s.tl.tasks.length < fuelFor s := by unfold fuelFor; omega

/-! ### what an event does to the queue before the scheduler runs on -/

/-- a change of the queue that leaves alone whether the head is in service, and the id and destination of a head in
service -/
theorem wf_tl (s : Sched) (tl : TaskList) (hw : WF s) (hsz : tl.size = tl.tasks.length) (ht : tl.taken = s.tl.taken)
    (hhd : ∀ t rest, s.tl.taken = true → s.tl.tasks = t :: rest →
      ∃ t' rest', tl.tasks = t' :: rest' ∧ t'.tid = t.tid ∧ t'.dest = t.dest) : WF { s with tl := tl } where
  size := hsz
  taken h := by
    obtain ⟨t, rest, e, a, b, c⟩ := hw.taken (ht ▸ h)
    obtain ⟨t', rest', e', a', b'⟩ := hhd t rest (ht ▸ h) e
    exact ⟨t', rest', e', a.trans b'.symm, by rw [a']; exact b, c⟩
  idle h :=
    have ⟨a, b, c⟩ := hw.idle h
    ⟨a, b, ht.trans c⟩

theorem wf_add (s : Sched) (t : Task) (h : WF s) : WF { s with tl := (s.tl.add t).1, serial := s.serial + 1 } :=
  have w := wf_tl s (s.tl.add t).1 h (add_size _ t h.size) rfl fun t0 _ _ e => ⟨t0, _, add_cons t e, rfl, rfl⟩
  ⟨w.size, w.taken, w.idle⟩   -- `WF` does not read `serial`

theorem wf_cancel (s : Sched) (cid : String) (h : WF s) : WF { s with tl := s.tl.cancel cid } :=
  wf_tl s _ h (cancel_size _ _ h.size) (cancel_taken _ _) (cancel_head s.tl cid)

theorem advance_ok (fuel : Nat) (s : Sched) (target : Int) (h : WF s) :
    WF (advance fuel s target).1 ∧ Quiescent (advance fuel s target).1 ∧
    (advance fuel s target).1.tl.tasks <:+ s.tl.tasks ∧ (advance fuel s target).1.serial = s.serial := by
  have base : ∀ (s : Sched) (n : Int), WF s →
      WF (settle (fuelFor s) { s with now := n }).1 ∧ Quiescent (settle (fuelFor s) { s with now := n }).1 ∧
      (settle (fuelFor s) { s with now := n }).1.tl.tasks <:+ s.tl.tasks ∧
      (settle (fuelFor s) { s with now := n }).1.serial = s.serial := fun s n h =>
    have sp := settle_spec _ _ (⟨h.size, h.taken, h.idle⟩ : WF { s with now := n }) (fuel_ok s)
    ⟨sp.wf, sp.quiescent, sp.suffix, sp.serial⟩
  fun_induction advance fuel s target with
  | case2 _ s _ t _ _ _ _ _ _ ih =>
    -- the timer of the task in service fires on the way
    obtain ⟨a, _, c, d⟩ := base s t.deadline h
    obtain ⟨a', b', c', d'⟩ := ih a
    exact ⟨a', b', c'.trans c, d'.trans d⟩
  | _ => exact base _ _ h

end PRV.Proofs.C07
