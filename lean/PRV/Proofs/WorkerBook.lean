import PRV.Model.WorkerBook
/-
What each operation of `Model/WorkerBook.lean` does to the record `load` finds under a name.
C04 (totals across connections) and C10 (the record a purchase starts from) both rest on these.
-/
namespace PRV.Proofs.WorkerBook
open PRV.Model.WorkerBook

theorem load_cons (e : String × Rec) (rest : Book) (w : String) :
    load (e :: rest) w = if e.1 = w then some e.2 else load rest w := by
  by_cases h : e.1 = w <;> simp [load, List.find?, h]

theorem load_append (b : Book) (id w : String) (r : Rec) :
    load (b ++ [(id, r)]) w = (load b w).or (if id = w then some r else none) := by
  unfold load
  rw [List.find?_append, Option.map_or]
  by_cases h : id = w <;> simp [h]

/-- `LoadOrStore`: an existing record is kept, a missing one is created empty, other names are untouched -/
theorem load_initRec (b : Book) (w w' : String) :
    load (initRec b w) w' = (load b w').or (if w = w' then some {} else none) := by
  unfold initRec
  split
  · by_cases e : w = w'
    · subst e; cases hl : load b w <;> simp_all
    · simp [e]
  · exact load_append b w w' {}

theorem load_reset (b : Book) (id w : String) : load (reset b id) w = if id = w then none else load b w := by
  unfold load reset
  rw [List.find?_filter]
  by_cases hw : id = w
  · subst hw; simp
  · rw [if_neg hw]
    congr
    funext e
    by_cases he : e.1 = w <;> simp [he, Ne.symm hw]

/-- a map that keeps the names acts on the record found -/
theorem load_map (g : String × Rec → String × Rec) (hg : ∀ e, (g e).1 = e.1) (l : Book) (w : String) :
    load (l.map g) w = (load l w).map fun r => (g (w, r)).2 := by
  induction l with
  | nil => rfl
  | cons e rest ih =>
    rw [List.map_cons, load_cons, load_cons, ih, hg]
    split
    · next h => rw [← h]; rfl
    · rfl

/-- a share is booked on the record of its own name (created if need be) and on no other -/
theorem load_onSubmit (b : Book) (w w' : String) (d t : Int) :
    load (onSubmit b w d t) w' =
      if w = w' then
        some { last := t, work := ((load b w).getD {}).work + d, shares := ((load b w).getD {}).shares + 1 }
      else load b w' := by
  rw [onSubmit, load_map _ (fun e => by split <;> rfl), load_initRec]
  by_cases e : w = w'
  · subst e; cases load b w <;> simp
  · cases load b w' <;> simp [e, Ne.symm e]

end PRV.Proofs.WorkerBook
