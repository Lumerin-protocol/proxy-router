import PRV.Model.Validator
import PRV.Model.Share
/-
Helper lemmas for C19: the bounded stack map refines "the last `cap` pushes, latest per key",
and the validator refines the unbounded-log specification.
-/
namespace PRV.Proofs.C19
open PRV.Model PRV.Spec.C19

variable {α : Type}

/-- value of the latest pair with key `k` -/
def lookupLast (k : String) : List (String × α) → Option α
  | [] => none
  | (a, v) :: rest => match lookupLast k rest with
      | some r => some r
      | none => if a = k then some v else none

theorem lookupLast_snoc (x k : String) (v : α) (w : List (String × α)) :
    lookupLast x (w ++ [(k, v)]) = if x = k then some v else lookupLast x w := by
  induction w with
  | nil => simp [lookupLast, eq_comm]
  | cons a w ih =>
    simp only [List.cons_append, lookupLast, ih]
    by_cases h : x = k <;> simp [h]

theorem lookupLast_none_iff (k : String) (w : List (String × α)) :
    lookupLast k w = none ↔ k ∉ w.map (·.1) := by
  induction w with
  | nil => simp [lookupLast]
  | cons a w ih =>
    simp only [lookupLast, List.map_cons, List.mem_cons, not_or, ← ih]
    cases lookupLast k w <;> simp [eq_comm]

/-- dropping the oldest pair `(o, vo)` changes the look-up of `o` alone, and only if no younger pair carries `o`: the
case in which `BSM.push` deletes the evicted key -/
theorem lookupLast_tail (x o : String) (vo : α) (rest : List (String × α)) :
    lookupLast x rest = if x = o ∧ o ∉ rest.map (·.1) then none else lookupLast x ((o, vo) :: rest) := by
  split
  next h => exact h.1 ▸ (lookupLast_none_iff o rest).mpr h.2
  next h =>
    simp only [lookupLast]
    cases hx : lookupLast x rest with
    | some r => rfl
    | none => exact (if_neg fun e : o = x => h ⟨e.symm, e ▸ (lookupLast_none_iff x rest).mp hx⟩).symm

theorem lookupLast_map (k : String) (f : α → α) (w : List (String × α)) :
    lookupLast k (w.map (fun p => (p.1, f p.2))) = (lookupLast k w).map f := by
  induction w with
  | nil => rfl
  | cons a w ih =>
    simp only [List.map_cons, lookupLast, ih]
    cases lookupLast k w with
    | some r => rfl
    | none => by_cases e : a.1 = k <;> simp [e]

theorem lastN_snoc {β : Type} (cap : Nat) (hc : 0 < cap) (l : List β) (x : β) :
    lastN cap (l ++ [x]) =
      if (lastN cap l).length = cap then (lastN cap l).tail ++ [x] else lastN cap l ++ [x] := by
  unfold lastN
  rw [List.length_append, List.length_singleton, List.length_drop, List.tail_drop]
  by_cases h : cap ≤ l.length
  · rw [if_pos (Nat.sub_sub_self h), Nat.succ_sub h, List.drop_append_of_le_length (Nat.sub_lt_of_pos_le hc h)]
  · have h := Nat.lt_of_not_le h
    rw [Nat.sub_eq_zero_of_le (Nat.le_of_lt h), Nat.sub_eq_zero_of_le h, if_neg (Nat.ne_of_lt h : l.length - 0 ≠ cap)]
    rfl

theorem lastN_getLast? {β : Type} {n : Nat} (hn : 0 < n) (l : List β) : (lastN n l).getLast? = l.getLast? := by
  rw [lastN, List.getLast?_drop]
  split
  · rw [List.eq_nil_of_length_eq_zero (by omega : l.length = 0)]
    rfl
  · rfl

theorem lastN_length_le {β : Type} (cap : Nat) (l : List β) : (lastN cap l).length ≤ cap := by
  unfold lastN; simp only [List.length_drop]; omega

theorem lastN_nil {β : Type} (n : Nat) : lastN n ([] : List β) = [] := List.drop_nil

theorem lastN_map {β γ : Type} (n : Nat) (f : β → γ) (l : List β) :
    lastN n (l.map f) = (lastN n l).map f := by
  unfold lastN; simp

/-- Representation invariant of the bounded stack map against the window `w` of recent pushes. -/
structure Inv (b : BSM α) (w : List (String × α)) : Prop where
  keys : b.keys = w.map (·.1)
  cc   : b.cc = w.length
  le   : w.length ≤ b.cap
  data : ∀ k, b.data k = lookupLast k w

theorem inv_empty (cap : Nat) : Inv (BSM.empty cap : BSM α) [] :=
  ⟨rfl, rfl, Nat.zero_le _, fun _ => rfl⟩

theorem push_cap (b : BSM α) (k : String) (v : α) : (b.push k v).cap = b.cap := by
  unfold BSM.push
  split
  · split <;> rfl
  · rfl

theorem push_inv {b : BSM α} {w : List (String × α)} (hcap : 0 < b.cap) (h : Inv b w)
    (k : String) (v : α) :
    Inv (b.push k v) (if w.length = b.cap then w.tail ++ [(k, v)] else w ++ [(k, v)]) := by
  unfold BSM.push
  rw [h.cc, h.keys]
  by_cases hfull : w.length = b.cap
  · rw [if_pos hfull, if_pos hfull]
    cases w with
    | nil => exact absurd hfull (Nat.ne_of_lt hcap)
    | cons o rest =>
      -- first, so that the `match` on the keys is reduced once and not in every field
      simp only [List.tail_cons, List.map_cons]
      refine ⟨by simp, by simp, by simpa using Nat.le_of_eq hfull, fun x => ?_⟩
      simp only [lookupLast_snoc, BSM.set]
      congr 1
      rw [lookupLast_tail x o.1 o.2 rest]
      by_cases hm : o.1 ∈ rest.map (·.1)
      · simp [hm, h.data]
      · simp [hm, BSM.set, h.data]
  · rw [if_neg hfull, if_neg hfull]
    refine ⟨by simp, by simp, ?_, fun x => ?_⟩
    · rw [List.length_append]
      exact Nat.lt_of_le_of_ne h.le hfull
    simp only [lookupLast_snoc, BSM.set, h.data]

theorem push_lastN {b : BSM α} {cap : Nat} {l : List (String × α)} (hc : 0 < cap) (hcap : b.cap = cap)
    (h : Inv b (lastN cap l)) (k : String) (v : α) : Inv (b.push k v) (lastN cap (l ++ [(k, v)])) := by
  subst hcap
  rw [lastN_snoc _ hc]
  exact push_inv hc h k v

theorem mapValues_inv {b : BSM α} {w : List (String × α)} (h : Inv b w) (f : α → α) :
    Inv (b.mapValues f) (w.map (fun p => (p.1, f p.2))) := by
  refine ⟨?_, ?_, ?_, ?_⟩
  · simp [BSM.mapValues, h.keys, Function.comp_def]
  · simp [BSM.mapValues, h.cc]
  · simpa [BSM.mapValues] using h.le
  · intro k; simp only [BSM.mapValues]; rw [lookupLast_map, h.data]

theorem last_of_inv {b : BSM α} {w : List (String × α)} (h : Inv b w) :
    b.last = w.getLast?.map (fun p => some p.2) := by
  unfold BSM.last
  rw [h.cc, h.keys]
  cases hw : w.getLast? with
  | none => rw [List.getLast?_eq_none_iff.mp hw]; rfl
  | some p =>
    obtain ⟨k, v⟩ := p
    obtain ⟨pre, rfl⟩ := List.getLast?_eq_some_iff.mp hw
    simp [h.data, lookupLast_snoc]

theorem foldl_inv (cap : Nat) (hc : 0 < cap) (h : List (String × α)) :
    Inv (h.foldl (fun b p => b.push p.1 p.2) (BSM.empty cap)) (lastN cap h) ∧
    (h.foldl (fun b p => b.push p.1 p.2) (BSM.empty cap)).cap = cap := by
  -- by induction from the newest push back: on the reversed history
  rw [← h.reverse_reverse]
  induction h.reverse with
  | nil => exact ⟨by rw [List.reverse_nil, lastN_nil]; exact inv_empty cap, rfl⟩
  | cons x r ih =>
    rw [List.reverse_cons, List.foldl_append]
    exact ⟨push_lastN hc ih.2 ih.1 x.1 x.2, (push_cap ..).trans ih.2⟩

def pair (a : Ann) : String × Ann := (a.id, a)

theorem findLatest_eq (id : String) (w : List Ann) :
    findLatest id w = lookupLast id (w.map pair) := by
  induction w with
  | nil => rfl
  | cons a w ih =>
    simp only [findLatest, List.map_cons, pair, lookupLast, ih]
    cases lookupLast id (List.map pair w) <;> rfl

theorem findLatest_id {id : String} {w : List Ann} {a : Ann} (h : findLatest id w = some a) :
    a.id = id := by
  induction w with
  | nil => cases h
  | cons b w ih =>
    unfold findLatest at h
    split at h
    next r hr => exact ih (hr.trans h)
    next =>
      split at h
      next e => exact Option.some.inj h ▸ e
      next => cases h

theorem findLatest_none_of_forall (id : String) (w : List Ann) (h : ∀ b ∈ w, b.id ≠ id) :
    findLatest id w = none := by
  rw [findLatest_eq, lookupLast_none_iff]
  simpa [pair] using h

theorem findLatest_mid (pre post : List Ann) (a : Ann) (hpost : ∀ b ∈ post, b.id ≠ a.id) :
    findLatest a.id (pre ++ a :: post) = some a := by
  induction pre with
  | nil =>
    simp only [List.nil_append, findLatest]
    rw [findLatest_none_of_forall _ _ hpost]; simp
  | cons p pre ih => simp only [List.cons_append, findLatest, ih]

theorem stamp_id (e : Int) (a : Ann) : (stamp e a).id = a.id := by
  unfold stamp; split <;> rfl

theorem addShare_id (id : String) (n : Nat) (sh : List Nat) (a : Ann) :
    (addShare id n sh a).id = a.id := by
  unfold addShare; split <;> rfl

/-- Refinement relation between the validator model and the unbounded-log specification. -/
structure R (v : Validator) (s : State) : Prop where
  window  : s.window = v.jobs.cap
  timeout : s.timeout = v.timeout
  serial  : v.serial = s.log.length
  inv     : Inv v.jobs ((lastN s.window s.log).map pair)

theorem R_init (cap : Nat) (t : Int) : R (Validator.new cap t) { window := cap, timeout := t } :=
  ⟨rfl, rfl, rfl, by
    rw [lastN_nil]
    exact inv_empty cap⟩

theorem R_get {v : Validator} {s : State} (h : R v s) (id : String) :
    v.jobs.get id = findLatest id (lastN s.window s.log) := by
  rw [findLatest_eq]; exact h.inv.data id

theorem R_map {v : Validator} {s : State} (h : R v s) (f : Ann → Ann) (hf : ∀ a, (f a).id = a.id) :
    Inv (v.jobs.mapValues f) ((lastN s.window (s.log.map f)).map pair) := by
  rw [lastN_map]
  simpa only [List.map_map, Function.comp_def, pair, hf] using mapValues_inv h.inv f

theorem R_stamp {v : Validator} {s : State} (h : R v s) (now : Int) :
    R (v.scheduleCleanJobs now) { s with log := s.log.map (stamp (now + s.timeout)) } :=
  ⟨h.window, h.timeout, by simp only [Validator.scheduleCleanJobs, h.serial, List.length_map],
    h.timeout ▸ R_map h _ (stamp_id _)⟩

theorem R_push {v : Validator} {s : State} (hc : 0 < v.jobs.cap) (h : R v s) (a : Ann) {n : Nat}
    (hn : n = s.log.length + 1) :
    R { jobs := v.jobs.push a.id a, timeout := v.timeout, serial := n } { s with log := s.log ++ [a] } := by
  refine ⟨by simp only [push_cap, h.window], h.timeout, by simp only [hn, List.length_append, List.length_singleton],
    ?_⟩
  have hi := h.inv
  rw [← lastN_map] at hi
  rw [← lastN_map, List.map_append]
  exact push_lastN (h.window ▸ hc) h.window.symm hi a.id a

theorem R_notify {v : Validator} {s : State} (hc : 0 < v.jobs.cap) (h : R v s)
    (id : String) (clean : Bool) (now : Int) :
    R (v.addNewJob id clean now) (notify s id clean now) := by
  unfold Validator.addNewJob
  rw [h.serial]
  cases clean with
  | false => exact R_push hc h { id := id, serial := s.log.length, exp := none, shares := [] } rfl
  | true =>
    exact R_push (v := v.scheduleCleanJobs now) hc (R_stamp h now)
      { id := id, serial := s.log.length, exp := none, shares := [] } (by simp only [List.length_map])

theorem R_submit {v : Validator} {s : State} (h : R v s)
    (id : String) (sh : List Nat) (now : Int) :
    R (v.validateAndAddShare id sh now).1 (submit s id sh now).1 ∧
    (v.validateAndAddShare id sh now).2 = (submit s id sh now).2 := by
  unfold Validator.validateAndAddShare submit
  rw [R_get h id]
  cases hf : findLatest id (lastN s.window s.log) with
  | none => exact ⟨h, rfl⟩
  | some job =>
    simp only
    by_cases he : expired job now = true
    · rw [if_pos he, if_pos he]; exact ⟨h, rfl⟩
    · rw [if_neg he, if_neg he]
      by_cases hd : job.shares.contains sh = true
      · rw [if_pos hd, if_pos hd]; exact ⟨h, rfl⟩
      · rw [if_neg hd, if_neg hd]
        -- storing the extended job under `id` is mapping `addShare` over all stored jobs
        have hm := R_map h _ (addShare_id id job.serial sh)
        refine ⟨⟨h.window, h.timeout, by simp [h.serial], hm.keys, hm.cc, hm.le, fun k => ?_⟩, rfl⟩
        have hg : v.jobs.data k = findLatest k (lastN s.window s.log) := R_get h k
        rw [← hm.data k]
        show (if k = id then some _ else v.jobs.data k) = (v.jobs.data k).map _
        by_cases e : k = id
        · subst e
          rw [hg, hf]
          simp [addShare, findLatest_id hf]
        · rw [if_neg e, hg]
          cases hk : findLatest k (lastN s.window s.log) with
          | none => rfl
          | some b => simp [addShare, findLatest_id hk, e]

theorem getLatest_eq {v : Validator} {s : State} (hc : 0 < v.jobs.cap) (h : R v s) :
    v.getLatestJob = latest s := by
  unfold Validator.getLatestJob latest
  rw [last_of_inv h.inv, List.getLast?_map, lastN_getLast? (h.window ▸ hc)]
  cases s.log.getLast? <;> rfl

theorem submit_verdict (s : State) (id : String) (sh : List Nat) (now : Int) :
    (submit s id sh now).2 =
      match findLatest id (lastN s.window s.log) with
      | none => .notFound
      | some a => if expired a now = true then .notFound
                  else if sh ∈ a.shares then .duplicate else .checked a.serial := by
  unfold submit
  cases findLatest id (lastN s.window s.log) with
  | none => rfl
  | some a =>
    by_cases he : expired a now = true
    · simp [he]
    · by_cases hd : sh ∈ a.shares <;> simp [he, hd]

theorem take_padTake {n k : Nat} {l : List Nat} (h : l.length = n) (hn : n ≤ k) : (padTake k l).take n = l := by
  rw [padTake, List.take_take, Nat.min_eq_left hn, List.take_append_of_le_length (Nat.le_of_eq h.symm),
    List.take_of_length_le (Nat.le_of_eq h)]

theorem padTake_of_length {k : Nat} {l : List Nat} (h : l.length = k) : padTake k l = l := by
  rw [padTake, List.take_append_of_le_length (Nat.le_of_eq h.symm), List.take_of_length_le (Nat.le_of_eq h)]

end PRV.Proofs.C19
