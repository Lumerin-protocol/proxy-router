import PRV.Model.Pow
import PRV.Spec.C01
/-
Lemmas relating the operation-by-operation model of `ValidateDiffFloat` to the header layout of
`Spec/C01.lean`.
-/
namespace PRV.Proofs.C01
open PRV.Base PRV.Model.Pow PRV.Spec.C01

theorem digit_lt {lo hi c : Char} {n : Nat} (h : lo ≤ c ∧ c ≤ hi) (hw : hi.toNat - lo.toNat < n) :
    c.toNat - lo.toNat < n :=
  Nat.lt_of_le_of_lt (Nat.sub_le_sub_right h.2 _) hw

theorem hexVal_lt (c : Char) (v : Nat) (h : hexVal c = some v) : v < 16 := by
  unfold hexVal at h
  split at h
  · cases h; exact digit_lt ‹_› (by decide)
  split at h
  · cases h; exact Nat.add_lt_of_lt_sub (digit_lt ‹_› (by decide))
  split at h
  · cases h; exact Nat.add_lt_of_lt_sub (digit_lt ‹_› (by decide))
  · cases h

theorem hexDecodeChars_append (a b : List Char) (h : isHexChars a = true) :
    hexDecodeChars (a ++ b) = hexDecodeChars a ++ hexDecodeChars b := by
  fun_induction isHexChars a with
  | case1 => rfl
  | case2 x y rest ih =>
    simp only [Bool.and_eq_true, Option.isSome_iff_exists] at h
    obtain ⟨⟨⟨vx, hvx⟩, vy, hvy⟩, hr⟩ := h
    simp only [List.cons_append, hexDecodeChars, hvx, hvy, ih hr]
  | case3 x => cases h

theorem hexDecodeChars_length (a : List Char) (h : isHexChars a = true) :
    2 * (hexDecodeChars a).length = a.length := by
  fun_induction isHexChars a with
  | case1 => rfl
  | case2 x y rest ih =>
    simp only [Bool.and_eq_true, Option.isSome_iff_exists] at h
    obtain ⟨⟨⟨vx, hvx⟩, vy, hvy⟩, hr⟩ := h
    simp only [hexDecodeChars, hvx, hvy, List.length_cons]
    have := ih hr
    omega
  | case3 x => cases h

theorem hexDecodeChars_lt (a : List Char) : ∀ v ∈ hexDecodeChars a, v < 256 := by
  fun_induction hexDecodeChars a with
  | case1 x y rest vx vy hx hy ih =>
    have := hexVal_lt _ _ hx
    have := hexVal_lt _ _ hy
    exact List.forall_mem_cons.mpr ⟨by omega, ih⟩
  | case2 => intro v hv; cases hv
  | case3 => intro v hv; cases hv

theorem hexDecode_append (a b : String) (h : isHex a = true) : hexDecode (a ++ b) = hexDecode a ++ hexDecode b := by
  unfold hexDecode
  rw [String.toList_append]
  exact hexDecodeChars_append _ _ h

theorem hexN_bytes (n : Nat) (s : String) (h : hexN n s = true) :
    (hexDecode s).length = n ∧ ∀ v ∈ hexDecode s, v < 256 := by
  unfold hexN at h
  simp only [Bool.and_eq_true, beq_iff_eq] at h
  have := hexDecodeChars_length s.toList h.1
  exact ⟨by unfold hexDecode; omega, hexDecodeChars_lt _⟩

theorem byte_step (x d : Nat) (hd : d < 256) : (x * 256 + d) % 256 = d ∧ (x * 256 + d) / 256 = x := by
  rw [Nat.mul_comm, Nat.mul_add_mod, Nat.mul_add_div (by decide), Nat.mod_eq_of_lt hd, Nat.div_eq_of_lt hd]
  exact ⟨rfl, rfl⟩

/-- four bytes read as a big-endian number `n`: the little-endian bytes of `n` are the four in reverse (one `byte_step`
per byte, since `omega` on the whole sum is slow), which `leU32` reads back as `n`, and `n` fits 32 bits -/
theorem be4 {l : List Nat} (h : l.length = 4 ∧ ∀ v ∈ l, v < 256) :
    l.reverse = le4 (beVal l) ∧ leU32 l.reverse = some (BitVec.ofNat 32 (beVal l)) ∧ beVal l < 2 ^ 32 := by
  match l, h with
  | [a, b, c, d], ⟨_, hl⟩ =>
    simp only [List.forall_mem_cons] at hl
    obtain ⟨ha, hb, hc, hd, -⟩ := hl
    have e : beVal [a, b, c, d] = ((a * 256 + b) * 256 + c) * 256 + d := by
      simp only [beVal, List.foldl, Nat.zero_mul, Nat.zero_add]
    have e2 : ∀ n, n / 65536 = n / 256 / 256 := fun n => (Nat.div_div_eq_div_mul n 256 256).symm
    have e3 : ∀ n, n / 16777216 = n / 256 / 256 / 256 := fun n => by
      rw [Nat.div_div_eq_div_mul, Nat.div_div_eq_div_mul]
    rw [e]
    refine ⟨?_, congrArg (fun n => some (BitVec.ofNat 32 n)) (by omega), by omega⟩
    simp only [le4, e2, e3, byte_step _ _ hd, byte_step _ _ hc, byte_step _ _ hb, Nat.mod_eq_of_lt ha]
    rfl

theorem decodeSwap_le4 (s : String) (h : hexN 4 s = true) : decodeSwap s = le4 (beVal (hexDecode s)) :=
  (be4 (hexN_bytes 4 s h)).1

theorem leU32_decodeSwap (s : String) (h : hexN 4 s = true) : leU32 (decodeSwap s) = some (word s) :=
  (be4 (hexN_bytes 4 s h)).2.1

theorem word_toNat (s : String) (h : hexN 4 s = true) : (word s).toNat = beVal (hexDecode s) :=
  Nat.mod_eq_of_lt (be4 (hexN_bytes 4 s h)).2.2

theorem le32_eq (v : BitVec 32) : le32 v = le4 v.toNat := rfl

theorem leNat_eq (l : List Nat) : leNat l = leVal l := by
  induction l with
  | nil => rfl
  | cons b rest ih => simp [leNat, leVal, ih]

theorem four_induction {P : List Nat → Prop} (nil : P [])
    (step : ∀ a b c d rest, P rest → P (a :: b :: c :: d :: rest)) :
    ∀ l : List Nat, l.length % 4 = 0 → P l
  | [], _ => nil
  | [_], h | [_, _], h | [_, _, _], h => nomatch h
  | a :: b :: c :: d :: rest, h =>
    step a b c d rest (four_induction nil step rest ((Nat.add_mod_right rest.length 4).symm.trans h))

theorem swapWords_eq (l : List Nat) (h : l.length % 4 = 0) : swapWords l = some (swap32 l) :=
  four_induction (P := fun l => swapWords l = some (swap32 l)) rfl
    (fun a b c d rest ih => by simp only [swapWords, swap32, ih, Option.map_some]) l h

theorem swap32_length (l : List Nat) (h : l.length % 4 = 0) : (swap32 l).length = l.length :=
  four_induction (P := fun l => (swap32 l).length = l.length) rfl
    (fun a b c d rest ih => by simp only [swap32, List.length_cons, ih]) l h

theorem le4_length (n : Nat) : (le4 n).length = 4 := rfl

theorem wellFormed_iff {en1 mask : String} {j : Job} {s : Share} :
    wellFormed en1 mask j s = true ↔
      hexN 32 j.prevHash = true ∧ hexN 4 j.version = true ∧ hexN 4 j.nbits = true ∧ hexN 4 s.ntime = true ∧
      hexN 4 s.nonce = true ∧ isHex j.gen1 = true ∧ isHex en1 = true ∧ isHex s.en2 = true ∧ isHex j.gen2 = true ∧
      j.branches.all (hexN 32) = true ∧ ∀ b, s.bits = some b → hexN 4 b = true ∧ hexN 4 mask = true := by
  unfold wellFormed
  simp only [Bool.and_eq_true, and_assoc]
  cases s.bits with
  | none => simp only [reduceCtorEq, false_implies, implies_true]
  | some b => simp only [Bool.and_eq_true, Option.some.injEq, forall_eq']

/-! ### what `ValidateDiffFloat` reads from the two messages -/

def jobOf (inp : Input) : Job :=
  { prevHash := jobStr inp 1, gen1 := jobStr inp 2, gen2 := jobStr inp 3, branches := jobArr inp 4,
    version := jobStr inp 5, nbits := jobStr inp 6 }

/-- `Gen.C01.jobParam`, evaluated once -/
theorem getVar_job (inp : Input) :
    getVar inp "prev_hash" = some (jobOf inp).prevHash ∧ getVar inp "gen1" = some (jobOf inp).gen1 ∧
    getVar inp "gen2" = some (jobOf inp).gen2 ∧ getVar inp "version" = some (jobOf inp).version ∧
    getVar inp "nbits" = some (jobOf inp).nbits ∧ branchesOf inp = (jobOf inp).branches := by
  simp only [jobOf, getVar, branchesOf, Gen.C01.en1Name, Gen.C01.maskName, Gen.C01.jobParam, List.lookup, String.reduceEq,
    if_false, String.reduceBEq, and_self]

/-- `Gen.C01.submitParam` and the two function parameters, evaluated once -/
theorem getVar_submit (inp : Input) :
    getVar inp "en1" = some inp.en1 ∧ getVar inp "version_mask" = some inp.mask ∧
    getVar inp "en2" = inp.submit[2]? ∧ getVar inp "ntime" = inp.submit[3]? ∧
    getVar inp "nonce" = inp.submit[4]? ∧ getVar inp "sver" = inp.submit[5]? := by
  simp only [getVar, Gen.C01.en1Name, Gen.C01.maskName, Gen.C01.jobParam, Gen.C01.submitParam, List.lookup, String.reduceEq,
    if_false, if_true, String.reduceBEq, and_self]

theorem operand_eq (inp : Input) :
    operand inp "jv" = (getVar inp "version").bind (fun s => leU32 (decodeSwap s)) ∧
    operand inp "vm" = (getVar inp "version_mask").bind (fun s => leU32 (decodeSwap s)) ∧
    operand inp "sv" = (getVar inp "sver").bind (fun s => leU32 (decodeSwap s)) := by
  simp only [operand, Gen.C01.versionOperands, List.find?, String.reduceEq, decide_false, decide_true, and_self]

theorem merkleRoot_eq (H : List Nat → List Nat) (en1 mask : String) (j : Job) (s : Share) (h : wellFormed en1 mask j s = true) :
    Model.Pow.merkleRoot H (hexDecode (j.gen1 ++ (en1 ++ (s.en2 ++ (j.gen2 ++ ""))))) j.branches = Spec.C01.merkleRoot H en1 j s := by
  obtain ⟨-, -, -, -, -, hg1, he1, he2, -⟩ := wellFormed_iff.mp h
  unfold Spec.C01.merkleRoot
  rw [hexDecode_append _ _ hg1, hexDecode_append _ _ he1, hexDecode_append _ _ he2, String.append_empty]
  simp only [List.append_assoc]
  rfl

theorem versionField_eq (inp : Input) (s : Share) (hb : inp.submit[5]? = s.bits)
    (h : wellFormed inp.en1 inp.mask (jobOf inp) s = true) :
    versionField inp = some (le4 (version inp.mask (jobOf inp) s).toNat) := by
  obtain ⟨-, hver, -, -, -, -, -, -, -, -, hbits⟩ := wellFormed_iff.mp h
  obtain ⟨_, _, _, gv, _, _⟩ := getVar_job inp
  obtain ⟨_, gm, _, _, _, gs⟩ := getVar_submit inp
  obtain ⟨ojv, ovm, osv⟩ := operand_eq inp
  unfold versionField version
  rw [← hb] at hbits ⊢
  cases h5 : inp.submit[5]? with
  | none =>
    rw [if_neg (show ¬ inp.submit.length > Gen.C01.sverMinLen from Nat.not_lt.mpr (List.getElem?_eq_none_iff.mp h5))]
    simp only [Gen.C01.versionElse, field, gv, Option.map_some, decodeSwap_le4 _ hver, word_toNat _ hver]
  | some b =>
    obtain ⟨hb4, hm4⟩ := hbits b h5
    rw [if_pos (show inp.submit.length > Gen.C01.sverMinLen from (List.getElem?_eq_some_iff.mp h5).1)]
    have a0 : Gen.C01.mixArgs[0]! = "jv" := rfl
    have a1 : Gen.C01.mixArgs[1]! = "vm" := rfl
    have a2 : Gen.C01.mixArgs[2]! = "sv" := rfl
    simp only [a0, a1, a2, ojv, ovm, osv, gv, gm, gs, h5, Option.bind_some, leU32_decodeSwap _ hver,
      leU32_decodeSwap _ hb4, leU32_decodeSwap _ hm4]
    rfl

/-- **The header the code hashes is the block header**, for every input: whatever the two messages
look like otherwise, if the job read from the notify and the share `s` the submit's parameters 2 to 5
hold are well-formed the assembled bytes are version ‖ prevhash ‖ merkle root ‖ ntime ‖ nbits ‖ nonce
in the Bitcoin layout -/
theorem header_of_reads (H : List Nat → List Nat) (inp : Input) (s : Share)
    (s2 : inp.submit[2]? = some s.en2) (s3 : inp.submit[3]? = some s.ntime) (s4 : inp.submit[4]? = some s.nonce)
    (s5 : inp.submit[5]? = s.bits) (h : wellFormed inp.en1 inp.mask (jobOf inp) s = true) :
    Model.Pow.header H inp = some (Spec.C01.header H inp.en1 inp.mask (jobOf inp) s) := by
  obtain ⟨hprev, -, hnbits, hntime, hnonce, -⟩ := wellFormed_iff.mp h
  obtain ⟨g5, g1, g4, _, g7, hbr⟩ := getVar_job inp
  obtain ⟨g2, _, g3, g6, g8, _⟩ := getVar_submit inp
  unfold Model.Pow.header
  rw [s2, s3, s4] at *
  have hp := (hexN_bytes 32 _ hprev).1
  simp only [Gen.C01.genOrder, concatVars, g1, g2, g3, g4, hbr, merkleRoot_eq H _ _ _ _ h, versionField_eq inp s s5 h,
    Gen.C01.headerParts, catFields, field, g5, g6, g7, g8, Option.map_some, Option.bind_some,
    swapWords_eq _ (by omega : (hexDecode (jobOf inp).prevHash).length % 4 = 0),
    decodeSwap_le4 _ hntime, decodeSwap_le4 _ hnbits, decodeSwap_le4 _ hnonce, if_true, Spec.C01.header,
    List.append_nil, List.append_assoc]

end PRV.Proofs.C01
