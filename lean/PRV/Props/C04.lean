import PRV.Proofs.Session
import PRV.Proofs.WorkerBook
/-
C04 — Every accepted share is credited exactly once, to the right parties.
Theorems about the submit path of `Model/Session.lean`, for every session state, every share and
every proof-of-work oracle (hence for every history leading to that state).
-/
namespace PRV.Props.C04
open PRV.Model.Session PRV.Proofs.Session

variable (pow : Pow)

/-- **Credited exactly once, or not at all.**  An accepted share adds the credited difficulty once to
the miner total and once to the worker total and counts one share; a rejected (unknown, expired,
repeated, too low) share adds nothing anywhere.  Every submit counts once as accepted or rejected. -/
theorem ledgers (s : Sess) (jobId : String) (share : List Nat) (nm : String) (r : SubmitRes)
    (h : submitSync pow s jobId share nm = some r) :
    (r.accepted = true →
        r.s.minerWork = s.minerWork + r.credit ∧ r.s.workerWork = s.workerWork + r.credit ∧
        r.s.minerShares = s.minerShares + 1 ∧ r.s.srcAcc = s.srcAcc + 1 ∧ r.s.srcRej = s.srcRej ∧
        r.reply = .ok) ∧
    (r.accepted = false →
        r.s.minerWork = s.minerWork ∧ r.s.workerWork = s.workerWork ∧ r.s.minerShares = s.minerShares ∧
        r.s.srcAcc = s.srcAcc ∧ r.s.srcRej = s.srcRej + 1 ∧ r.credit = 0 ∧ r.cbFired = none) := by
  obtain ⟨a, s2, acc, t, f, -, l, rfl⟩ := submitSync_book h
  cases acc
  · exact ⟨nofun, fun _ => ⟨l.minerWork, l.workerWork, l.minerShares, l.srcAcc, congrArg (· + 1) l.srcRej, rfl, rfl⟩⟩
  · exact ⟨fun _ => ⟨congrArg (· + _) l.minerWork, congrArg (· + _) l.workerWork, congrArg (· + 1) l.minerShares,
      congrArg (· + 1) l.srcAcc, l.srcRej, rfl⟩, nofun⟩

/-- **The task is credited only for its own destination.**  The installed task callback fires
exactly for accepted shares that are forwarded to the destination the miner is currently assigned
to, with the same amount the miner total got. -/
theorem task_credit_only_own_destination (s : Sess) (jobId : String) (share : List Nat) (nm : String)
    (r : SubmitRes) (k : Nat) (h : submitSync pow s jobId share nm = some r) :
    r.cbFired = some k ↔ (r.accepted = true ∧ r.fwd = s.active ∧ s.cb = some k) := by
  obtain ⟨a, s2, acc, t, f, ha, l, rfl⟩ := submitSync_book h
  rw [activeDest_key ha]
  cases acc
  · simp [book]
  · by_cases e : t = a.key <;> simp [book, e, l.cb]

/-- the amount credited is the difficulty captured with the job the share solves, at the
destination it is forwarded to (not that destination's current difficulty) -/
theorem credit_is_job_difficulty (s : Sess) (target : String × String) (jobId : String) (d : Dest) (job : Spec.C19.Ann)
    (info : JobInfo) (hd : findDest s target = some d) (hj : d.v.jobs.get jobId = some job)
    (hi : d.jobs[job.serial]? = some info) : creditOf s target jobId = info.diff := by
  unfold creditOf; simp [hd, hj, hi]

/-- each combination of (we accepted?, pool rejected?) increments exactly the counters of its cell,
for the miner and for the destination the share went to -/
theorem verdict_bucket (s : Sess) (d : Dest) (accepted rejects : Bool) (hd : findDest s d.key = some d) :
    let s' := poolAnswer s d.key accepted rejects
    s'.srcAccTheyRej = s.srcAccTheyRej + (if accepted ∧ rejects then 1 else 0) ∧
    s'.srcRejTheyAcc = s.srcRejTheyAcc + (if ¬ accepted ∧ ¬ rejects then 1 else 0) ∧
    s'.srcAcc = s.srcAcc ∧ s'.srcRej = s.srcRej ∧ s'.minerWork = s.minerWork ∧ s'.workerWork = s.workerWork := by
  unfold poolAnswer
  rw [hd]
  cases accepted <;> cases rejects <;> simp [setDest']

/-- one submit of a history: job id, the share's proof-of-work input, the name it was sent under -/
abbrev Sub := String × List Nat × String

/-- the synchronous submit path over a whole history; a submit without an assigned destination is
refused and leaves the session as it is -/
def submitAll (pow : Pow) : Sess → List Sub → Sess × List SubmitRes
  | s, [] => (s, [])
  | s, x :: xs =>
    match submitSync pow s x.1 x.2.1 x.2.2 with
    | none => submitAll pow s xs
    | some r => let rr := submitAll pow r.s xs; (rr.1, r :: rr.2)

def totalCredit (rs : List SubmitRes) : Nat := (rs.map (·.credit)).sum
def acceptedCount (rs : List SubmitRes) : Nat := (rs.filter (·.accepted)).length
def rejectedCount (rs : List SubmitRes) : Nat := (rs.filter (fun r => !r.accepted)).length

theorem totalCredit_cons (r : SubmitRes) (rs : List SubmitRes) : totalCredit (r :: rs) = r.credit + totalCredit rs :=
  List.sum_cons

theorem acceptedCount_cons (r : SubmitRes) (rs : List SubmitRes) :
    acceptedCount (r :: rs) = acceptedCount [r] + acceptedCount rs := by
  unfold acceptedCount; rw [← List.length_append, ← List.filter_append]; rfl

theorem rejectedCount_cons (r : SubmitRes) (rs : List SubmitRes) :
    rejectedCount (r :: rs) = rejectedCount [r] + rejectedCount rs := by
  unfold rejectedCount; rw [← List.length_append, ← List.filter_append]; rfl

theorem accepted_add_rejected (rs : List SubmitRes) : acceptedCount rs + rejectedCount rs = rs.length := by
  unfold acceptedCount rejectedCount
  rw [← List.countP_eq_length_filter, ← List.countP_eq_length_filter, List.length_eq_countP_add_countP (·.accepted)]
  simp

/-- `ledgers` without the case split: a rejected share is a share of credit 0 -/
theorem ledgers_step {s : Sess} {jobId : String} {share : List Nat} {nm : String} {r : SubmitRes}
    (h : submitSync pow s jobId share nm = some r) :
    r.s.minerWork = s.minerWork + r.credit ∧ r.s.workerWork = s.workerWork + r.credit ∧
    r.s.minerShares = s.minerShares + acceptedCount [r] ∧ r.s.srcAcc = s.srcAcc + acceptedCount [r] ∧
    r.s.srcRej = s.srcRej + rejectedCount [r] := by
  obtain ⟨a, s2, acc, t, f, -, l, rfl⟩ := submitSync_book h
  cases acc
  · exact ⟨l.minerWork, l.workerWork, l.minerShares, l.srcAcc, congrArg (· + 1) l.srcRej⟩
  · exact ⟨congrArg (· + _) l.minerWork, congrArg (· + _) l.workerWork, congrArg (· + 1) l.minerShares,
      congrArg (· + 1) l.srcAcc, l.srcRej⟩

theorem add_step {a b c t x : Nat} (l : b = a + c) (i : x = b + t) : x = a + (c + t) := by
  rw [i, l, Nat.add_assoc]

/-- **Conservation over every history of submits**, of any length: what the miner ledger and the
worker ledger gained is exactly the sum of the credits of the accepted shares — nothing is credited
twice, nothing is lost, a rejected share contributes nothing — and every processed submit is counted
exactly once as accepted or as rejected. -/
theorem ledgers_history (s : Sess) (xs : List Sub) :
    (submitAll pow s xs).1.minerWork = s.minerWork + totalCredit (submitAll pow s xs).2 ∧
    (submitAll pow s xs).1.workerWork = s.workerWork + totalCredit (submitAll pow s xs).2 ∧
    (submitAll pow s xs).1.minerShares = s.minerShares + acceptedCount (submitAll pow s xs).2 ∧
    (submitAll pow s xs).1.srcAcc = s.srcAcc + acceptedCount (submitAll pow s xs).2 ∧
    (submitAll pow s xs).1.srcRej = s.srcRej + rejectedCount (submitAll pow s xs).2 := by
  induction xs generalizing s with
  | nil => exact ⟨rfl, rfl, rfl, rfl, rfl⟩
  | cons x xs ih =>
    unfold submitAll
    cases h : submitSync pow s x.1 x.2.1 x.2.2 with
    | none => exact ih s
    | some r =>
      obtain ⟨l1, l2, l3, l4, l5⟩ := ledgers_step pow h
      obtain ⟨i1, i2, i3, i4, i5⟩ := ih r.s
      dsimp only
      rw [totalCredit_cons, acceptedCount_cons, rejectedCount_cons]
      exact ⟨add_step l1 i1, add_step l2 i2, add_step l3 i3, add_step l4 i4, add_step l5 i5⟩

/-- the miner ledger and the worker ledger never drift apart, whatever is submitted -/
theorem ledgers_agree_history (s : Sess) (xs : List Sub) (h : s.minerWork = s.workerWork) :
    (submitAll pow s xs).1.minerWork = (submitAll pow s xs).1.workerWork := by
  obtain ⟨hminer, hworker, -⟩ := ledgers_history pow s xs
  rw [hminer, hworker, h]

/-- every processed submit of a history is counted, once -/
theorem every_submit_counted (s : Sess) (xs : List Sub) :
    (submitAll pow s xs).1.srcAcc + (submitAll pow s xs).1.srcRej =
      s.srcAcc + s.srcRej + (submitAll pow s xs).2.length := by
  obtain ⟨-, -, -, hacc, hrej⟩ := ledgers_history pow s xs
  rw [hacc, hrej, ← accepted_add_rejected]
  omega

/-- every result of a history is the result of one submit, in some state -/
theorem submitAll_mem (s : Sess) (xs : List Sub) :
    ∀ r ∈ (submitAll pow s xs).2, ∃ s' jobId share nm, submitSync pow s' jobId share nm = some r := by
  induction xs generalizing s with
  | nil => intro r hr; cases hr
  | cons x xs ih =>
    unfold submitAll
    cases h : submitSync pow s x.1 x.2.1 x.2.2 with
    | none => exact ih s
    | some r0 =>
      intro r hr
      rcases List.mem_cons.mp hr with rfl | e
      · exact ⟨s, _, _, _, h⟩
      · exact ih r0.s r e

/-- in every history a rejected share carries no credit and fires no task callback -/
theorem rejected_no_credit_history (s : Sess) (xs : List Sub) :
    ∀ r ∈ (submitAll pow s xs).2, r.accepted = false → r.credit = 0 ∧ r.cbFired = none := by
  intro r hr ha
  obtain ⟨s', jobId, share, nm, h⟩ := submitAll_mem pow s xs r hr
  obtain ⟨-, -, -, -, -, hc, hf⟩ := (ledgers pow s' jobId share nm r h).2 ha
  exact ⟨hc, hf⟩

namespace Book
open PRV.Model.WorkerBook PRV.Proofs.WorkerBook

/-- what happens to the per-worker-name record during normal operation: a connection under a name,
or a share credited to a name (`Reset` belongs to the buyer's purchase start, C10) -/
inductive BookOp where
  | connect (w : String)
  | submit (w : String) (diff now : Int)

def bookStep (b : Book) : BookOp → Book
  | .connect w => onConnect b w
  | .submit w d t => onSubmit b w d t

/-- the work credited to `w` by a history -/
def credited (w : String) : List BookOp → Int
  | [] => 0
  | .submit w' d _ :: rest => (if w' = w then d else 0) + credited w rest
  | .connect _ :: rest => credited w rest

def total (b : Book) (w : String) : Int := (totalWork b w).getD 0

/-- **A connection never changes any worker-name total** — the record of a name outlives the
connection: a reconnecting rig, a second rig, another miner of the same contract add to one total. -/
theorem connect_keeps_totals (b : Book) (w w' : String) : total (onConnect b w) w' = total b w' := by
  unfold total totalWork onConnect
  rw [load_initRec]
  cases load b w' <;> by_cases e : w = w' <;> simp [e]

theorem submit_total (b : Book) (w w' : String) (d t : Int) :
    total (onSubmit b w d t) w' = total b w' + (if w = w' then d else 0) := by
  unfold total totalWork
  rw [load_onSubmit]
  by_cases e : w = w'
  · subst e; cases load b w <;> simp
  · simp [e]

/-- **Exactly once to the worker-name total, over every history** of connections and shares of any
length, under any number of connections per name: the total of a name is what it was plus the sum
of the difficulties credited to that name — never less (a reconnection loses nothing), never more. -/
theorem worker_total_history (b : Book) (ops : List BookOp) (w : String) :
    total (ops.foldl bookStep b) w = total b w + credited w ops := by
  induction ops generalizing b with
  | nil => exact (Int.add_zero _).symm
  | cons op ops ih =>
    rw [List.foldl_cons, ih]
    cases op with
    | connect w0 => rw [bookStep, connect_keeps_totals, credited]
    | submit w0 d t => rw [bookStep, submit_total, credited, Int.add_assoc]

example : total ([BookOp.submit "a" 10 1, .submit "a" 10 2, .connect "a", .submit "a" 10 3].foldl bookStep []) "a" = 30 := by
  decide

end Book

/-- a successful switch — also one to the current destination — installs exactly the callback it
was given: when a task has ended (`hasCb = false`, or the next task's callback) nothing more is
credited to it, and the next task is credited from its first accepted share on -/
theorem switch_installs_callback (s : Sess) (pool : String) (hasCb : Bool)
    (hsucc : Out.session "setdest-ret nil" ∈ (switchTo s pool hasCb).2) :
    (switchTo s pool hasCb).1.cb = (if hasCb then some (s.cbN + 1) else none) := by
  unfold switchTo at hsucc ⊢
  generalize (if hasCb then some (s.cbN + 1) else none) = cb at hsucc
  generalize (if hasCb then s.cbN + 1 else s.cbN) = cbN at hsucc
  rcases switchWith_cases s pool cb cbN rfl with ⟨-, e⟩ | ⟨s', pre, w, e, hw, hpre, -⟩ | ⟨p, msgs, -, -, e⟩
  · rw [e]
  · rw [e] at hsucc
    rcases List.mem_append.mp hsucc with h | h
    · exact nomatch hpre _ h
    · cases List.mem_singleton.mp h; exact absurd rfl hw
  · rw [e]; rfl

end PRV.Props.C04
