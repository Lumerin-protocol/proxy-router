import PRV.Proofs.Session
/-
C02 — Each share reaches only the pool that issued its job, under that pool's name.
Theorems about `submit` of `Model/Session.lean`, for every session state (hence every history of
switches, notifications and earlier submits leading to it), every share and every
proof-of-work oracle.
-/
namespace PRV.Props.C02
open PRV.Model.Session PRV.Proofs.Session

variable (pow : Pow)

def isToPool : Out → Bool | .toPool _ _ _ => true | _ => false
def isToMiner : Out → Bool | .toMiner _ => true | _ => false

/-- **At most one pool connection, exactly one reply.**  A submit is forwarded to at most one pool
connection and the miner gets exactly one reply, carrying the request id. -/
theorem one_forward_one_reply (s : Sess) (id jobId en2 nt no vb nm : String) (share : List Nat) :
    ((submit pow s id jobId en2 nt no vb nm share).2.filter isToPool).length ≤ 1 ∧
    (activeDest s ≠ none → ∃ r, submitSync pow s jobId share nm = some r ∧
      (submit pow s id jobId en2 nt no vb nm share).2.filter isToMiner = [.toMiner (replyLine id r.reply)]) := by
  unfold submit
  cases hs : submitSync pow s jobId share nm with
  | none => exact ⟨Nat.zero_le _, fun ha => absurd (submitSync_eq_none.mp hs) ha⟩
  | some r =>
    dsimp only
    cases r.fwd.bind (findDest r.s) with
    | none => exact ⟨Nat.zero_le _, fun _ => ⟨r, rfl, rfl⟩⟩
    | some d => cases r.cbFired <;> exact ⟨Nat.le_refl _, fun _ => ⟨r, rfl, rfl⟩⟩

/-- **Accepted exactly when it should be.**  The reply says accepted exactly when the active
destination's job memory accepts the share, or — the job being unknown there, or its difficulty
not met (a colliding job id) — some cached destination's does. -/
theorem accepted_iff (s : Sess) (a : Dest) (jobId : String) (share : List Nat) (nm : String) (r : SubmitRes)
    (ha : activeDest s = some a) (h : submitSync pow s jobId share nm = some r) :
    (r.reply = .ok ↔ r.accepted = true) ∧
    (r.accepted = true ↔
      ((validate pow a jobId share nm s.now).2.1 = .ok ∨
       (((validate pow a jobId share nm s.now).2.1 = .jobNotFound ∨ (validate pow a jobId share nm s.now).2.1 = .lowDiff) ∧
        (fallback pow jobId share nm (setDest' s (validate pow a jobId share nm s.now).1).now
            (setDest' s (validate pow a jobId share nm s.now).1).dests).2.isSome))) := by
  obtain ⟨s2, acc, t, e, -, hc⟩ := submitSync_spec pow ha jobId share nm rfl rfl
  obtain rfl := Option.some.inj (h.symm.trans e)
  rcases hc with ⟨hv, rfl, -⟩ | ⟨hv, rfl, hf⟩ | ⟨hv, hn, rfl, -⟩
  · exact ⟨⟨fun _ => rfl, fun _ => rfl⟩, fun _ => .inl hv, fun _ => rfl⟩
  · exact ⟨⟨fun _ => rfl, fun _ => rfl⟩, fun _ => .inr ⟨hv, by rw [hf]; rfl⟩, fun _ => rfl⟩
  · refine ⟨⟨fun h => absurd h hv, nofun⟩, nofun, ?_⟩
    rintro (h | ⟨h, hs⟩)
    · exact absurd h hv
    · rw [hn h] at hs; cases hs

/-- **To the pool whose job it solves.**  An accepted share is forwarded either to the active
destination, whose job memory accepted it, or to a cached destination that is in the destination
map, knows the job id and whose job memory accepted the share. -/
theorem accepted_goes_to_job_owner (s : Sess) (a : Dest) (jobId : String) (share : List Nat) (nm : String)
    (r : SubmitRes) (ha : activeDest s = some a) (h : submitSync pow s jobId share nm = some r)
    (hacc : r.accepted = true) :
    (r.fwd = some a.key ∧ ((validate pow a jobId share nm s.now).2.1 = .ok ∨
        ∃ d ∈ (setDest' s (validate pow a jobId share nm s.now).1).dests, d.key = a.key ∧
          d.v.hasJob jobId = true ∧ (validate pow d jobId share nm s.now).2.1 = .ok)) ∨
    (∃ d ∈ (setDest' s (validate pow a jobId share nm s.now).1).dests, r.fwd = some d.key ∧
        d.v.hasJob jobId = true ∧ (validate pow d jobId share nm s.now).2.1 = .ok) := by
  obtain ⟨s2, acc, t, e, -, hc⟩ := submitSync_spec pow ha jobId share nm rfl rfl
  obtain rfl := Option.some.inj (h.symm.trans e)
  rcases hc with ⟨hv, rfl, rfl⟩ | ⟨-, rfl, hf⟩ | ⟨-, -, rfl, -⟩
  · exact .inl ⟨rfl, .inl hv⟩
  · obtain ⟨d, hd, rfl, hj, hv⟩ := fallback_target hf
    exact .inr ⟨d, hd, rfl, hj, hv⟩
  · cases hacc

/-- **Under that pool's name.**  The forwarded share carries the user name authorised on the
connection it is forwarded to (never the name of the destination the miner has since been switched
to, and never the miner's own name). -/
theorem forwarded_under_own_name (s : Sess) (id jobId en2 nt no vb nm : String) (share : List Nat)
    (p : String) (c : Nat) (line : String)
    (h : Out.toPool p c line ∈ (submit pow s id jobId en2 nt no vb nm share).2) :
    ∃ r d, submitSync pow s jobId share nm = some r ∧ r.fwd.bind (findDest r.s) = some d ∧ d.pool = p ∧ d.conn = c ∧
      line = s!"submit id={id} user={d.user} job={jobId} en2={en2} ntime={nt} nonce={no} vbits={vb}" := by
  unfold submit at h
  split at h
  · cases h
  next r hs =>
    split at h
    · simp at h
    next d hd =>
      refine ⟨r, d, hs, hd, ?_⟩
      cases hc : r.cbFired <;> simp [hc] at h <;> exact ⟨h.1.symm, h.2.1.symm, h.2.2⟩

theorem one_reply_at_most (s : Sess) (id jobId en2 nt no vb nm : String) (share : List Nat) :
    ((submit pow s id jobId en2 nt no vb nm share).2.filter isToMiner).length ≤ 1 := by
  by_cases ha : activeDest s = none
  · unfold submit; rw [submitSync_eq_none.mpr ha]; exact Nat.zero_le _
  · obtain ⟨r, -, h⟩ := (one_forward_one_reply pow s id jobId en2 nt no vb nm share).2 ha
    rw [h]; exact Nat.le_refl _

/-- one submit as the miner sends it: request id, job id, extranonce2, ntime, nonce, version bits,
worker name, and the proof-of-work input -/
structure SubmitMsg where
  id : String
  jobId : String
  en2 : String
  nt : String
  no : String
  vb : String
  nm : String
  share : List Nat

/-- a whole history of submits, each run to quiescence, outputs in order -/
def submitMany (pow : Pow) : Sess → List SubmitMsg → Sess × List Out
  | s, [] => (s, [])
  | s, m :: ms =>
    let r := submit pow s m.id m.jobId m.en2 m.nt m.no m.vb m.nm m.share
    let rr := submitMany pow r.1 ms
    (rr.1, r.2 ++ rr.2)

/-- **No share is ever duplicated towards a pool, no reply is ever duplicated towards the miner**,
over any history of submits of any length: at most one forwarded line and at most one reply per
submit the miner sent. -/
theorem history_forwards_and_replies_bounded (s : Sess) (ms : List SubmitMsg) :
    ((submitMany pow s ms).2.filter isToPool).length ≤ ms.length ∧
    ((submitMany pow s ms).2.filter isToMiner).length ≤ ms.length := by
  induction ms generalizing s with
  | nil => exact ⟨Nat.le_refl _, Nat.le_refl _⟩
  | cons m ms ih =>
    unfold submitMany
    simp only [List.filter_append, List.length_append, List.length_cons]
    have a := (one_forward_one_reply pow s m.id m.jobId m.en2 m.nt m.no m.vb m.nm m.share).1
    have b := one_reply_at_most pow s m.id m.jobId m.en2 m.nt m.no m.vb m.nm m.share
    have i := ih (submit pow s m.id m.jobId m.en2 m.nt m.no m.vb m.nm m.share).1
    constructor <;> omega

end PRV.Props.C02
