import PRV.Model.Alloc
import PRV.Gen.Wiring
import Mathlib.Tactic.Linarith
import Mathlib.Data.List.Perm.Basic
import Mathlib.Data.List.Nodup
/-
C11 — Allocation never over-commits and only uses eligible miners.
The loops are proved for *any* item list (so independent of the sort order), then lifted to the
snapshot of a population.
-/
namespace PRV.Props.C11
open PRV.Model.Alloc PRV.Gen.C11 PRV.Gen.C20

theorem total_cons (id : String) (x : Rat) (as : Allocs) : total ((id, x) :: as) = x + total as := rfl

theorem total_append (as bs : Allocs) : total (as ++ bs) = total as + total bs := by
  unfold total; rw [List.map_append, List.sum_append]

/-- `as` were picked from `items` in their order, each item at most once, every amount satisfying `P` of its item -/
abbrev Picked (P : Item → Rat → Prop) : Allocs → List Item → Prop :=
  List.SublistForall₂ fun a it => it.id = a.1 ∧ P it a.2

theorem Picked.mem {P : Item → Rat → Prop} {as : Allocs} {items : List Item} (h : Picked P as items) :
    ∀ a ∈ as, ∃ it ∈ items, it.id = a.1 ∧ P it a.2 := by
  induction h with
  | nil => nofun
  | cons hr _ ih =>
    exact List.forall_mem_cons.mpr ⟨⟨_, List.mem_cons_self, hr⟩, fun a ha =>
      (ih a ha).imp fun _ h => ⟨List.mem_cons_of_mem _ h.1, h.2⟩⟩
  | cons_right _ ih => exact fun a ha => (ih a ha).imp fun _ h => ⟨List.mem_cons_of_mem _ h.1, h.2⟩

theorem Picked.ids {P : Item → Rat → Prop} {as : Allocs} {items : List Item} (h : Picked P as items) :
    List.Sublist (as.map (·.1)) (items.map (·.id)) := by
  induction h with
  | nil => exact List.nil_sublist _
  | cons hr _ ih => rw [List.map_cons, List.map_cons, hr.1]; exact ih.cons_cons _
  | cons_right _ ih => exact ih.cons _

/-- both snapshots are: filter the population, convert, sort -/
theorem mem_snapshot {p : Miner → Bool} {f : Miner → Item} {le : Item → Item → Bool} {pop : List Miner} {it : Item}
    (h : it ∈ ((pop.filter p).map f).mergeSort le) : ∃ m ∈ pop, it = f m ∧ p m = true := by
  obtain ⟨m, hm, rfl⟩ := List.mem_map.mp ((List.mergeSort_perm _ _).subset h)
  exact ⟨m, (List.mem_filter.mp hm).1, rfl, (List.mem_filter.mp hm).2⟩

theorem snapshot_ids_nodup {p : Miner → Bool} {f : Miner → Item} (le : Item → Item → Bool) {pop : List Miner}
    (hf : ∀ m, (f m).id = m.id) (hn : (pop.map (·.id)).Nodup) :
    ((((pop.filter p).map f).mergeSort le).map (·.id)).Nodup := by
  rw [((List.mergeSort_perm _ le).map _).nodup_iff, List.map_map, show (·.id) ∘ f = (·.id) from funext hf]
  exact hn.sublist (List.filter_sublist.map _)

theorem mem_freeItems {pop : List Miner} {rem : Int} {it : Item} (h : it ∈ freeItems pop rem) :
    ∃ m ∈ pop, it = freeItem m rem ∧ m.vetting = false ∧ m.disconnecting = false ∧ m.tasks = 0 := by
  obtain ⟨m, hm, e, hc⟩ := mem_snapshot h
  simp only [eligible, isFree, Bool.and_eq_true, Bool.not_eq_true', beq_iff_eq] at hc
  exact ⟨m, hm, e, hc.1.1, hc.1.2, hc.2⟩

theorem mem_partialItems {pop : List Miner} {rem : Int} {it : Item} (h : it ∈ partialItems pop rem) :
    ∃ m ∈ pop, it = partialItem m rem ∧ m.vetting = false ∧ m.disconnecting = false ∧ 0 < m.tasks := by
  unfold partialItems at h
  split at h
  · nomatch h
  · obtain ⟨m, hm, e, hc⟩ := mem_snapshot h
    simp only [eligible, isPartialBusy, Bool.and_eq_true, Bool.not_eq_true', decide_eq_true_eq] at hc
    exact ⟨m, hm, e, hc.1.1, hc.1.2, hc.2.1⟩

theorem freeItems_ids_nodup {pop : List Miner} (rem : Int) (hn : (pop.map (·.id)).Nodup) :
    ((freeItems pop rem).map (·.id)).Nodup := snapshot_ids_nodup _ (fun _ => rfl) hn

theorem partialItems_ids_nodup {pop : List Miner} (rem : Int) (hn : (pop.map (·.id)).Nodup) :
    ((partialItems pop rem).map (·.id)).Nodup := by
  unfold partialItems
  split
  · exact List.nodup_nil
  · exact snapshot_ids_nodup _ (fun _ => rfl) hn

/-- every chosen miner's rate fits into what was still missing when it was chosen -/
def FitsSeq : Allocs → Rat → Prop
  | [], _ => True
  | (_, x) :: rest, r => 0 < x ∧ x ≤ r ∧ FitsSeq rest (r - x)

theorem FitsSeq.total_le {a : Allocs} {r : Rat} (h : FitsSeq a r) : 0 ≤ total a ∧ (0 ≤ r → total a ≤ r) := by
  induction a generalizing r with
  | nil => exact ⟨le_rfl, id⟩
  | cons x rest ih =>
    obtain ⟨h1, h2, h3⟩ := h
    have := ih h3
    rw [total_cons]
    exact ⟨add_nonneg h1.le this.1, fun _ => le_sub_iff_add_le'.1 (this.2 (sub_nonneg.2 h2))⟩

theorem fullLoop_inv (items : List Item) (r : Rat) :
    Picked (fun it x => x = it.hr) (fullLoop items r).1 items ∧ FitsSeq (fullLoop items r).1 r ∧
    (fullLoop items r).2 = r - total (fullLoop items r).1 := by
  fun_induction fullLoop items r with
  | case1 r => exact ⟨.nil, trivial, (sub_zero r).symm⟩
  | case2 it rest r h res ih =>
    exact ⟨.cons ⟨rfl, rfl⟩ ih.1, ⟨h.2, h.1, ih.2.1⟩, by rw [total_cons, ← sub_sub]; exact ih.2.2⟩
  | case3 it rest r h ih => exact ⟨ih.1.cons_right, ih.2⟩

/-- the remainder reported is exactly the request minus the rates handed out -/
theorem full_remainder_eq (items : List Item) (r : Rat) :
    (fullLoop items r).2 = r - total (fullLoop items r).1 := (fullLoop_inv items r).2.2

theorem full_each_fits (items : List Item) (r : Rat) : FitsSeq (fullLoop items r).1 r := (fullLoop_inv items r).2.1

theorem full_sum_le (items : List Item) (r : Rat) (h0 : 0 ≤ r) : total (fullLoop items r).1 ≤ r :=
  (full_each_fits items r).total_le.2 h0

theorem full_remainder_nonneg (items : List Item) (r : Rat) (h0 : 0 ≤ r) : 0 ≤ (fullLoop items r).2 := by
  rw [full_remainder_eq]; exact sub_nonneg.mpr (full_sum_le items r h0)

/-- only connected, vetted, not disconnecting, free miners receive whole-miner tasks, at their own rate -/
theorem full_eligible (pop : List Miner) (req : Rat) (a : String × Rat)
    (ha : a ∈ (allocateFull pop req).1) :
    ∃ m ∈ pop, m.id = a.1 ∧ m.vetting = false ∧ m.disconnecting = false ∧ m.tasks = 0 ∧
      a.2 = m.hr * hashratePredictionAdjustment := by
  obtain ⟨it, hit, hid, hhr⟩ := (fullLoop_inv (freeItems pop 0) req).1.mem a ha
  obtain ⟨m, hm, rfl, hv, hd, ht⟩ := mem_freeItems hit
  exact ⟨m, hm, hid, hv, hd, ht, hhr⟩

/-- no miner receives more than one whole-miner task per call (miner ids are unique) -/
theorem full_no_miner_twice (pop : List Miner) (req : Rat) (hn : (pop.map (·.id)).Nodup) :
    ((allocateFull pop req).1.map (·.1)).Nodup :=
  (freeItems_ids_nodup 0 hn).sublist (fullLoop_inv (freeItems pop 0) req).1.ids

theorem full_never_overcommits (pop : List Miner) (req : Rat) (h0 : 0 ≤ req) :
    total (allocateFull pop req).1 ≤ req ∧
    (allocateFull pop req).2 = req - total (allocateFull pop req).1 ∧
    FitsSeq (allocateFull pop req).1 req :=
  ⟨full_sum_le _ _ h0, full_remainder_eq _ _, full_each_fits _ _⟩

theorem minJob_pos : 0 < allocationMinJob := by decide +kernel

theorem partialLoop_inv (items : List Item) (need : Rat) :
    Picked (fun it x => allocationMinJob ≤ x ∧ x ≤ it.jobRemaining) (partialLoop items need).1 items ∧
    ((partialLoop items need).2.2 = false →
      total (partialLoop items need).1 + (partialLoop items need).2.1 = need) ∧
    (0 ≤ need → total (partialLoop items need).1 ≤ need) := by
  fun_induction partialLoop items need with
  | case1 need => exact ⟨.nil, fun _ => zero_add _, id⟩
  | case2 it rest need h => exact ⟨.nil, nofun, id⟩
  | case3 | case4 | case5 | case6 =>
    rename_i ih
    exact ⟨ih.1.cons_right, ih.2⟩
  | case7 it rest need h1 _ _ _ _ h6 =>
    exact ⟨.cons ⟨rfl, not_lt.mp h1, h6⟩ .nil, nofun, fun _ => (add_zero need).le⟩
  | case8 it rest need _ h2 _ _ _ h6 res ih =>
    refine ⟨.cons ⟨rfl, not_lt.mp h2, le_rfl⟩ ih.1, fun hf => ?_, fun _ => ?_⟩
    · rw [total_cons, add_assoc, ih.2.1 hf, add_sub_cancel]
    · rw [total_cons]; linarith [ih.2.2 (sub_nonneg.mpr (not_le.mp h6).le)]

/-- partial loop: chunks ≥ minimum, each within the miner's spare capacity, sum + what is still
needed = request -/
theorem partialLoop_spec (items : List Item) (need : Rat) :
    (∀ a ∈ (partialLoop items need).1, allocationMinJob ≤ a.2) ∧
    (∀ a ∈ (partialLoop items need).1, ∃ it ∈ items, it.id = a.1 ∧ a.2 ≤ it.jobRemaining) ∧
    ((partialLoop items need).2.2 = false →
        total (partialLoop items need).1 + (partialLoop items need).2.1 = need) ∧
    (0 ≤ need → total (partialLoop items need).1 ≤ need) ∧
    List.Sublist ((partialLoop items need).1.map (·.1)) (items.map (·.id)) := by
  obtain ⟨hp, h3, h4⟩ := partialLoop_inv items need
  exact ⟨fun a ha => let ⟨_, _, _, h, _⟩ := hp.mem a ha; h,
    fun a ha => let ⟨it, hit, hid, _, h⟩ := hp.mem a ha; ⟨it, hit, hid, h⟩, h3, h4, hp.ids⟩

theorem freeLoop_inv (rem : Int) (items : List Item) (need : Rat) :
    Picked (fun it x => allocationMinJob ≤ x ∧ x ≤ ghsToJobSubmittedV2 it.hr rem) (freeLoop rem items need).1 items ∧
    (0 ≤ need → 0 ≤ (freeLoop rem items need).2 ∧
      total (freeLoop rem items need).1 + (freeLoop rem items need).2 ≤ need) := by
  fun_induction freeLoop rem items need with
  | case1 need => exact ⟨.nil, fun h => ⟨h, (zero_add need).le⟩⟩
  | case2 it rest need h => exact ⟨.nil, fun h0 => ⟨le_rfl, (add_zero _).trans_le h0⟩⟩
  | case3 it rest need h1 cap h2 ih => exact ⟨ih.1.cons_right, ih.2⟩
  | case4 it rest need h1 cap h2 amount res ih =>
    have e : amount = min cap need := (min_def cap need).symm
    refine ⟨.cons ⟨rfl, e ▸ le_min (not_le.mp h2).le (not_lt.mp h1), e ▸ min_le_left cap need⟩ ih.1, fun _ => ?_⟩
    have := ih.2 (sub_nonneg.mpr (e ▸ min_le_right cap need))
    rw [total_cons]
    exact ⟨this.1, by linarith⟩

/-- free loop: chunks ≥ minimum, each within what the miner can do in the remaining time, total ≤ need -/
theorem freeLoop_spec (rem : Int) (items : List Item) (need : Rat) (h0 : 0 ≤ need) :
    (∀ a ∈ (freeLoop rem items need).1, allocationMinJob ≤ a.2) ∧
    (∀ a ∈ (freeLoop rem items need).1, ∃ it ∈ items, it.id = a.1 ∧ a.2 ≤ ghsToJobSubmittedV2 it.hr rem) ∧
    total (freeLoop rem items need).1 ≤ need ∧ 0 ≤ (freeLoop rem items need).2 ∧
    total (freeLoop rem items need).1 + (freeLoop rem items need).2 ≤ need ∧
    List.Sublist ((freeLoop rem items need).1.map (·.1)) (items.map (·.id)) := by
  obtain ⟨hp, h⟩ := freeLoop_inv rem items need
  obtain ⟨h4, h5⟩ := h h0
  exact ⟨fun a ha => let ⟨_, _, _, h, _⟩ := hp.mem a ha; h,
    fun a ha => let ⟨it, hit, hid, _, h⟩ := hp.mem a ha; ⟨it, hit, hid, h⟩, by linarith, h4, h5, hp.ids⟩

theorem freeItem_cap (m : Miner) (rem : Int) : ghsToJobSubmittedV2 (freeItem m rem).hr rem = expectedJob m rem := by
  have : hashratePredictionAdjustment = 1 := by decide +kernel
  unfold freeItem expectedJob; rw [this, mul_one]

/-- **Partial allocation.** For every population, request ≥ 0 and remaining time: every task is
at least the minimum chunk; goes to an eligible miner; is no more than that miner can do in the
remaining time on top of what it already holds; and the tasks together never exceed the request. -/
theorem partial_spec (pop : List Miner) (need : Rat) (rem : Int) (h0 : 0 ≤ need)
    (hwf : ∀ m ∈ pop, m.tasks = 0 → m.scheduled = 0) :
    (∀ a ∈ (allocatePartial pop need rem).1, allocationMinJob ≤ a.2) ∧
    (∀ a ∈ (allocatePartial pop need rem).1, ∃ m ∈ pop, m.id = a.1 ∧ m.vetting = false ∧
        m.disconnecting = false ∧ a.2 ≤ expectedJob m rem - m.scheduled) ∧
    total (allocatePartial pop need rem).1 ≤ need ∧
    0 ≤ (allocatePartial pop need rem).2 := by
  obtain ⟨hp, p3, p4⟩ := partialLoop_inv (partialItems pop rem) need
  obtain ⟨hf, f⟩ := freeLoop_inv rem (freeItems pop rem) (partialLoop (partialItems pop rem) need).2.1
  -- the tasks handed out are those of the first loop, or of both
  have hall : ∀ a ∈ (partialLoop (partialItems pop rem) need).1 ++
        (freeLoop rem (freeItems pop rem) (partialLoop (partialItems pop rem) need).2.1).1,
      allocationMinJob ≤ a.2 ∧ ∃ m ∈ pop, m.id = a.1 ∧ m.vetting = false ∧ m.disconnecting = false ∧
        a.2 ≤ expectedJob m rem - m.scheduled := by
    intro a ha
    rcases List.mem_append.mp ha with ha | ha
    · obtain ⟨it, hit, hid, hmin, hle⟩ := hp.mem a ha
      obtain ⟨m, hm, rfl, hv, hd, _⟩ := mem_partialItems hit
      exact ⟨hmin, m, hm, hid, hv, hd, hle⟩
    · obtain ⟨it, hit, hid, hmin, hle⟩ := hf.mem a ha
      obtain ⟨m, hm, rfl, hv, hd, ht⟩ := mem_freeItems hit
      -- a free miner holds nothing (`hwf`), so its spare capacity is its cycle capacity
      rw [freeItem_cap] at hle
      exact ⟨hmin, m, hm, hid, hv, hd, by rw [hwf m hm ht, sub_zero]; exact hle⟩
  unfold allocatePartial
  dsimp only
  split
  · exact ⟨fun a ha => (hall a (List.mem_append_left _ ha)).1, fun a ha => (hall a (List.mem_append_left _ ha)).2,
      p4 h0, le_rfl⟩
  · next hdone =>
    have hsum := p3 (Bool.not_eq_true _ ▸ hdone)
    obtain ⟨f4, f5⟩ := f (by linarith [p4 h0])
    exact ⟨fun a ha => (hall a ha).1, fun a ha => (hall a ha).2, by rw [total_append]; linarith, f4⟩

/-- no miner receives more than one task per partial-allocation call: the partially busy and the
free miners of one snapshot are disjoint, and each loop visits a miner at most once -/
theorem partial_no_miner_twice (pop : List Miner) (need : Rat) (rem : Int)
    (hn : (pop.map (·.id)).Nodup) : ((allocatePartial pop need rem).1.map (·.1)).Nodup := by
  have hp := (partialLoop_inv (partialItems pop rem) need).1
  have ndP := (partialItems_ids_nodup rem hn).sublist hp.ids
  unfold allocatePartial
  dsimp only
  split
  · exact ndP
  · have hf := (freeLoop_inv rem (freeItems pop rem) (partialLoop (partialItems pop rem) need).2.1).1
    rw [List.map_append]
    refine ndP.append ((freeItems_ids_nodup rem hn).sublist hf.ids) fun x hx1 hx2 => ?_
    obtain ⟨a1, ha1, rfl⟩ := List.mem_map.mp hx1
    obtain ⟨a2, ha2, e⟩ := List.mem_map.mp hx2
    obtain ⟨it1, hit1, hid1, _⟩ := hp.mem a1 ha1
    obtain ⟨it2, hit2, hid2, _⟩ := hf.mem a2 ha2
    obtain ⟨m1, hm1, rfl, _, _, t1⟩ := mem_partialItems hit1
    obtain ⟨m2, hm2, rfl, _, _, t2⟩ := mem_freeItems hit2
    have : m1 = m2 := List.inj_on_of_nodup_map hn hm1 hm2 (hid1.trans (e.symm.trans hid2.symm))
    subst this; omega

/-- with no time left nothing is allocated partially -/
theorem partial_zero_duration (pop : List Miner) (need : Rat) :
    (allocatePartial pop need 0).1 = [] := by
  have hfree : ∀ n, (freeLoop 0 (freeItems pop 0) n).1 = [] := fun n =>
    List.eq_nil_iff_forall_not_mem.mpr fun a ha => by
      obtain ⟨it, _, _, hmin, hle⟩ := (freeLoop_inv 0 (freeItems pop 0) n).1.mem a ha
      have : ghsToJobSubmittedV2 it.hr 0 = 0 := by unfold ghsToJobSubmittedV2; simp
      linarith [minJob_pos]
  unfold allocatePartial partialItems
  simp [partialLoop, hfree]

/-! ### the vetting threshold the eligibility test relies on (regenerated wiring) -/

def lookupW (l : List (String × String)) (k : String) : Option String := (l.find? (·.1 = k)).map (·.2)

/-- "only miners past vetting receive tasks": the threshold the proxy counts accepted shares against and the one the
scheduler reports are both the configured `minerVettingShares`, and the destination-cache size is a different
parameter that goes only to `maxCachedDests` -/
theorem source_vetting_threshold_wired :
    lookupW PRV.Gen.Wiring.handlerProxyArgs "vettingShares" = some "minerVettingShares" ∧
    lookupW PRV.Gen.Wiring.handlerProxyArgs "maxCachedDests" = some "maxCachedDests" ∧
    lookupW PRV.Gen.Wiring.handlerSchedulerArgs "minerVettingShares" = some "minerVettingShares" ∧
    lookupW PRV.Gen.Wiring.proxyFields "vettingShares" = some "vettingShares" ∧
    lookupW PRV.Gen.Wiring.proxyFields "maxCachedDests" = some "maxCachedDests" ∧
    lookupW PRV.Gen.Wiring.schedulerFields "minerVettingShares" = some "minerVettingShares" := by decide +kernel

/-! ### non-vacuity -/
example : fullLoop [⟨"a", 100, 0, 0⟩, ⟨"b", 60, 0, 0⟩, ⟨"d", 30, 0, 0⟩] 140 = ([("a", 100), ("d", 30)], 10) := by
  decide +kernel

end PRV.Props.C11
