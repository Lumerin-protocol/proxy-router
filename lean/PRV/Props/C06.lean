import PRV.Model.Life
import PRV.Props.C03
import PRV.Gen.C06
import PRV.Gen.Wiring
/-
C06 — After a pool connection fails, relaying resumes once or the miner is released.
Theorems about `Model/Life.lean` for every session state.
-/
namespace PRV.Props.C06
open PRV.Model.Session PRV.Model.Life

def isDial : Out → Bool
  | .factory _ (some _) => true
  | _ => false

def dialsIn (os : List Out) : Nat := (os.filter isDial).length

theorem dialsIn_append (a b : List Out) : dialsIn (a ++ b) = dialsIn a + dialsIn b := by
  simp [dialsIn]

theorem resend_no_dial {d : Dest} {msgs : List Out} (h : resend d = some msgs) : dialsIn msgs = 0 :=
  List.length_eq_zero_iff.mpr <| List.filter_eq_nil_iff.mpr fun o ho => by
    have := PRV.Props.C03.resend_toMiner h o ho
    cases o with
    | factory p c => exact nomatch this
    | _ => exact Bool.false_ne_true

theorem acquire_fresh_one_dial (s : Sess) (pool user : String) (p : PoolCfg) (h : findDest s (pool, user) = none) :
    dialsIn (acquire s pool p user).2.2 = 1 := by
  unfold acquire; dsimp only; rw [h]; cases s.vr <;> rfl

theorem closes_no_dial (ds : List Dest) : dialsIn (ds.map fun d => Out.toPool d.pool d.conn "closed") = 0 := by
  rw [dialsIn, List.filter_map, List.length_map]
  exact List.length_eq_zero_iff.mpr (List.filter_eq_nil_iff.mpr fun _ _ => Bool.false_ne_true)

theorem release_live (l : Life) (kind : String) (extra : List Out) (hg : l.minerGone = false)
    (hx : dialsIn extra ≤ 1) :
    (∃ k, (release l kind extra).1.phase = .released k) ∧ Out.toMiner "closed" ∈ (release l kind extra).2 ∧
      dialsIn (release l kind extra).2 ≤ 1 ∧ (release l kind extra).1.s.dests = [] := by
  unfold release
  rw [hg, dialsIn_append, dialsIn_append, closes_no_dial]
  exact ⟨⟨_, rfl⟩, by simp, hx, rfl⟩

/-- nothing is dialled before the reconnect delay has passed -/
theorem no_dial_before_delay (l : Life) (u : Int) (h : l.phase = .waiting u) (hn : l.s.now < u) :
    reconnect l = (l, []) := by
  unfold reconnect
  simp [h, hn]

/-- **once or released**: when the reconnect is due, either exactly one replacement connection is
dialled and the session relays again, or the session is over, the miner's connection is closed and
no pool connection is left — nothing in between, and never more than one dial -/
theorem resumes_once_or_releases (l : Life) (u : Int) (pool user : String) (p : PoolCfg)
    (h : l.phase = .waiting u) (hn : ¬ l.s.now < u) (ha : l.s.active = some (pool, user)) (hp : findPool l.s pool = some p)
    (hr : (resend (acquire l.s pool p user).2.1).isSome) (hfresh : findDest l.s (pool, user) = none)
    (hg : l.minerGone = false) :
    ((reconnect l).1.phase = .relaying ∧ dialsIn (reconnect l).2 = 1 ∧ (reconnect l).1.dials = l.dials + 1) ∨
    ((∃ k, (reconnect l).1.phase = .released k) ∧ Out.toMiner "closed" ∈ (reconnect l).2 ∧ dialsIn (reconnect l).2 ≤ 1 ∧
      (reconnect l).1.s.dests = []) := by
  have hacq := acquire_fresh_one_dial l.s pool user p hfresh
  unfold reconnect
  simp only [h, hn, if_false, ha, hp]
  cases h1 : flag l.reach pool with
  | false => exact .inr (release_live _ _ _ hg (Nat.zero_le 1))
  | true =>
    cases h2 : flag l.auth pool with
    | false => exact .inr (release_live _ _ _ hg (by rw [dialsIn_append, hacq]; exact Nat.le_refl 1))
    | true =>
      left
      simp only [Bool.not_true, Bool.false_eq_true, if_false, hg]
      obtain ⟨msgs, hm⟩ := Option.isSome_iff_exists.mp hr
      simp only [hm]
      refine ⟨trivial, ?_, trivial⟩
      rw [dialsIn_append, hacq, resend_no_dial hm]

/-- a miner that hung up during the wait (when nobody reads from it) is noticed at the reconnect: the
replacement that was dialled for it is closed again and the session ends with nothing left open -/
theorem miner_gone_during_wait_leaves_nothing (l : Life) (u : Int) (pool user : String) (p : PoolCfg)
    (h : l.phase = .waiting u) (hn : ¬ l.s.now < u) (ha : l.s.active = some (pool, user)) (hp : findPool l.s pool = some p)
    (hr : flag l.reach pool = true) (hau : flag l.auth pool = true) (hg : l.minerGone = true) :
    (∃ k, (reconnect l).1.phase = .released k) ∧ (reconnect l).1.s.dests = [] ∧
    Out.toPool pool (acquire l.s pool p user).2.1.conn "closed" ∈ (reconnect l).2 := by
  unfold reconnect
  simp [h, hn, ha, hp, hr, hau, hg]

/-- **never keeps opening connections**: only a failure of the active connection leads to a dial —
while relaying, or once released, `reconnect` does nothing -/
theorem no_dial_without_fault (l : Life) (h : ∀ u, l.phase ≠ .waiting u) : reconnect l = (l, []) := by
  unfold reconnect
  cases hp : l.phase with
  | waiting u => exact absurd hp (h u)
  | relaying | released k => rfl

/-- a failure of a parked connection does not stop the relay -/
theorem parked_failure_keeps_relaying (l : Life) (pool : String) (d : Dest)
    (h : l.phase = .relaying) (hd : lastConnOf l.s pool = some d) (hp : isActive l.s d = false) :
    (poolClose l pool).1.phase = .relaying ∧ (poolClose l pool).1.s.active = l.s.active := by
  unfold poolClose
  simp [h, hd, hp]

/-- a failure of the active connection starts the wait and counts one fault -/
theorem active_failure_waits (l : Life) (pool : String) (d : Dest)
    (h : l.phase = .relaying) (hd : lastConnOf l.s pool = some d) (hp : isActive l.s d = true) :
    (poolClose l pool).1.phase = .waiting (l.s.now + reconnectDelay) ∧ (poolClose l pool).1.faults = l.faults + 1 ∧
    (poolClose l pool).2 = [.toPool d.pool d.conn "closed"] := by
  unfold poolClose
  simp [h, hd, hp]

/-- **releasing releases everything**: when the miner leaves, the node shuts down, or a reconnect
fails, no pool connection of the session stays open -/
theorem release_closes_everything (l : Life) (kind : String) (extra : List Out) :
    (release l kind extra).1.s.dests = [] ∧
    ∀ d ∈ l.s.dests, Out.toPool d.pool d.conn "closed" ∈ (release l kind extra).2 :=
  ⟨rfl, fun d hd => List.mem_append_right _ (List.mem_map.mpr ⟨d, hd, rfl⟩)⟩

/-! ### whole lifecycles: any sequence of failures, time, hang-ups and shutdowns -/

inductive LifeOp where
  | poolClose (pool : String)
  | tick (ns : Int)
  | minerClose
  | shutdown

def lifeStep (l : Life) : LifeOp → Life × List Out
  | .poolClose p => poolClose l p
  | .tick ns => tick l ns
  | .minerClose => minerClose l
  | .shutdown => shutdown l

def lifeRun : Life → List LifeOp → Life × List Out
  | l, [] => (l, [])
  | l, op :: ops => let r := lifeStep l op; let rr := lifeRun r.1 ops; (rr.1, r.2 ++ rr.2)

/-- every failure of the active connection is answered by at most one dial; while the answer is
outstanding (the session waits) one dial is still owed -/
def DialBudget (l : Life) : Prop :=
  l.dials + (match l.phase with | .waiting _ => 1 | _ => 0) ≤ l.faults

theorem DialBudget.le {l : Life} (h : DialBudget l) : l.dials ≤ l.faults := by
  unfold DialBudget at h; omega

/-- a released session owes nothing: its budget unfolds to `l.dials + 0 ≤ l.faults` -/
theorem release_budget {l : Life} {kind : String} {extra : List Out} (h : l.dials ≤ l.faults) :
    DialBudget (release l kind extra).1 := h

/-- the dial that a waiting session is owed is spent by every branch of `reconnect` that dials
(the cases are the branches of `reconnect` in the order of its text) -/
theorem reconnect_budget (l : Life) (h : DialBudget l) : DialBudget (reconnect l).1 := by
  have owed : ∀ {due}, l.phase = .waiting due → l.dials + 1 ≤ l.faults := fun hp => by
    unfold DialBudget at h; rw [hp] at h; exact h
  fun_cases reconnect l with
  | case1 | case2 | case3 | case7 | case9 => exact h                        -- nothing happens
  | case4 _ hp => exact release_budget (Nat.le_of_succ_le (owed hp))  -- pool unreachable: no dial, released
  | case5 _ hp => exact release_budget (owed hp)                      -- not authorised: one dial, released
  | case6 _ hp | case8 _ hp => exact owed hp                                -- miner gone / relaying again: one dial

theorem lifeStep_budget (l : Life) (op : LifeOp) (h : DialBudget l) : DialBudget (lifeStep l op).1 := by
  cases op with
  | poolClose p =>
    show DialBudget (poolClose l p).1
    fun_cases poolClose l p
    · exact Nat.succ_le_succ h.le
    · exact h
    · exact h
  | tick ns => exact reconnect_budget _ h
  | minerClose =>
    show DialBudget (minerClose l).1
    fun_cases minerClose l
    · exact h
    · exact h
    · exact release_budget h.le
  | shutdown =>
    show DialBudget (shutdown l).1
    fun_cases shutdown l
    · exact h
    · exact release_budget h.le

/-- **Never more replacement connections than failures**, over every lifecycle of any length: the
number of pool connections dialled because of a failure never exceeds the number of failures of the
active connection, and while a reconnect is still outstanding it is strictly smaller. -/
theorem dials_never_exceed_faults (l : Life) (ops : List LifeOp) (h : DialBudget l) :
    DialBudget (lifeRun l ops).1 ∧ (lifeRun l ops).1.dials ≤ (lifeRun l ops).1.faults := by
  have main : DialBudget (lifeRun l ops).1 := by
    induction ops generalizing l with
    | nil => exact h
    | cons op ops ih => exact ih _ (lifeStep_budget l op h)
  exact ⟨main, main.le⟩

/-- a fresh session starts inside the budget -/
theorem fresh_budget (s : Sess) : DialBudget { s := s } := by unfold DialBudget; simp

theorem released_ops (l : Life) (k : String) (h : l.phase = .released k) :
    reconnect l = (l, []) ∧ minerClose l = (l, []) ∧ shutdown l = (l, []) ∧ ∀ p, poolClose l p = (l, []) := by
  refine ⟨no_dial_without_fault l (by rw [h]; nofun), ?_, ?_, fun p => ?_⟩
  · unfold minerClose; rw [h]
  · unfold shutdown; rw [h]
  · unfold poolClose; rw [h]

/-- **Released is final**: once the session is over nothing is dialled, sent or closed any more,
whatever happens afterwards. -/
theorem released_is_final (l : Life) (k : String) (ops : List LifeOp) (h : l.phase = .released k) :
    (lifeRun l ops).2 = [] ∧ (lifeRun l ops).1.phase = .released k := by
  induction ops generalizing l with
  | nil => exact ⟨rfl, h⟩
  | cons op ops ih =>
    obtain ⟨l', e, h'⟩ : ∃ l', lifeStep l op = (l', []) ∧ l'.phase = .released k := by
      obtain ⟨-, h2, h3, h4⟩ := released_ops l k h
      cases op with
      | poolClose p => exact ⟨l, h4 p, h⟩
      | tick ns => exact ⟨_, (released_ops { l with s := { l.s with now := l.s.now + ns } } k h).1, h⟩
      | minerClose => exact ⟨l, h2, h⟩
      | shutdown => exact ⟨l, h3, h⟩
    unfold lifeRun
    rw [e]
    exact ih l' h'

/-! ### facts about the source, regenerated on every run -/

/-- every start of `Proxy.Run` stops the pipe that is left over and builds a fresh one: a relay direction that finished under
the previous run still carries that run's destination error, and a second run that looked at it would close the healthy
connection the scheduler has just opened and dial once more -/
theorem source_run_renews_its_pipe : PRV.Gen.C06.runPrelude =
    ["defer p.closeConnections()", "handler := NewHandlerMining(p)",
     "if p.pipe != nil { <-p.pipe.StopSourceToDest(); <-p.pipe.StopDestToSource() }",
     "p.pipe = NewPipe(p.source, p.dest, handler.sourceInterceptor, handler.destInterceptor, p.log)"] := rfl

/-- "the replacement goes to the same destination": the url a session reconnects to is its own copy of the configured one, made
inside the per-connection closure — the handshake writes the miner's worker name through it, and with one url for all sessions a
replacement would be authorised under another miner's worker -/
theorem source_session_owns_its_destination :
    (PRV.Gen.Wiring.handlerLocals.find? (·.1 = "url")).map (·.2) = some "lib.CopyURL(defaultDestUrl)" ∧
    (PRV.Gen.Wiring.handlerProxyArgs.find? (·.1 = "destURL")).map (·.2) = some "url" := by decide +kernel

end PRV.Props.C06
