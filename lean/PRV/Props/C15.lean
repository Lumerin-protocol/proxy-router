import PRV.Model.Handshake
import PRV.Gen.Wiring
import PRV.Gen.C15
import PRV.Model.AnswerRace
/-
C15 — Handshake correlated and ordered per connection; contract routing correct.
Per-event theorems about `Model/Handshake.lean` for every connection state (hence every order of
requests, every timing of pool replies and every interleaved notification leading to it), and a
non-interference theorem for a process holding many connections.
-/
namespace PRV.Props.C15
open PRV.Model PRV.Model.Handshake

def isToMiner : Out → Bool | .toMiner _ => true | _ => false
def isFactory : Out → Bool | .factory _ => true | _ => false

theorem find_drop (hs : List (String × HKind)) (id : String) : (hs.filter (·.1 ≠ id)).find? (·.1 = id) = none := by
  simp

theorem step_open {s : HS} (hf : s.finished = none) (ev : Ev) : step s ev = stepCore s ev := by
  simp [step, hf]

/-! ### replies are correlated by request id and carry this connection's pool's values -/

/-- **configure**: the pool's configure result for a pending configure request reaches the miner
once, under the same id, with the mask the pool granted; the request is then settled -/
theorem configure_reply (s : HS) (id mask : String) (hf : s.finished = none)
    (hh : s.handlers.find? (·.1 = id) = some (id, .configure)) :
    (step s (.pCfgResult id mask)).2 = [.toMiner (cfgLine id mask)] ∧
    (step s (.pCfgResult id mask)).1.handlers.find? (·.1 = id) = none ∧
    (step s (.pCfgResult id mask)).1.finished = none := by
  simp only [step_open hf, stepCore, onResult, hh]
  exact ⟨trivial, find_drop _ _, hf⟩

/-- **subscribe**: the pool's subscribe result for a pending subscribe request reaches the miner
once, under the same id, with that pool's extranonce and extranonce size -/
theorem subscribe_reply (s : HS) (id en1 : String) (size : Nat) (hf : s.finished = none)
    (hh : s.handlers.find? (·.1 = id) = some (id, .subscribe)) :
    (step s (.pSubResult id en1 size)).2 = [.toMiner (subLine id en1 size)] ∧
    (step s (.pSubResult id en1 size)).1.handlers.find? (·.1 = id) = none ∧
    (step s (.pSubResult id en1 size)).1.finished = none := by
  simp only [step_open hf, stepCore, onResult, hh]
  exact ⟨trivial, find_drop _ _, hf⟩

/-- a subscribe is forwarded to the connection's own destination and registered under its id -/
theorem subscribe_forwarded (s : HS) (id : String) (p : String) (n : Nat) (hf : s.finished = none)
    (hd : s.dest = some (p, n)) :
    (step s (.mSubscribe id)).2 = [.toPool p n s!"subscribe id={id}"] ∧
    (step s (.mSubscribe id)).1.handlers.find? (·.1 = id) = some (id, .subscribe) ∧
    (step s (.mSubscribe id)).1.subscribed = true := by
  simp only [step_open hf, stepCore, onSubscribe, hd,
    Option.isSome_some, if_true, poolOut, setHandler]
  rw [List.find?_append, find_drop]
  simp

/-- **acknowledged once, forwarded under the destination's name**: an authorize on a connection
that has subscribed gets exactly one acknowledgement under its id, and one authorize goes to the
connection's own pool with the user name and password `Model/Cred.authorize` (C17) computes -/
theorem authorize_acked_once (s : HS) (id user : String) (u : PoolUrl) (p : String) (n : Nat)
    (hf : s.finished = none) (hs : s.subscribed = true) (hu : s.destUrl = some u) (hd : s.dest = some (p, n)) :
    (step s (.mAuthorize id user)).2 =
      [.toMiner s!"result id={id} ok",
       .toPool p n s!"authorize id={id} user={bytesStr (Cred.authorize s.notPropagate (strBytes user) (credUrl u)).1} pwd={bytesStr (Cred.authorize s.notPropagate (strBytes user) (credUrl u)).2.1}"] ∧
    (step s (.mAuthorize id user)).1.finished = none := by
  simp only [step_open hf, stepCore, onAuthorize, hs, Bool.not_true, Bool.false_eq_true, if_false, hu, setHandler, hd]
  exact ⟨rfl, hf⟩

/-- **order enforced**: authorize on a connection that has not itself subscribed is refused — the
miner gets no acknowledgement and the handshake fails -/
theorem authorize_before_subscribe_refused (s : HS) (id user : String) (hf : s.finished = none)
    (hs : s.subscribed = false) :
    (step s (.mAuthorize id user)).1.finished = some (.failed "handshake-source") ∧
    (step s (.mAuthorize id user)).2.filter isToMiner = [] := by
  simp only [step_open hf, stepCore, onAuthorize, hs, Bool.not_false, if_true, fail]
  cases s.dest <;> simp [isToMiner, List.filter]

/-- the reply a result event carries: request id and whether it is a refusal -/
def replyOf : Ev → Option (String × Bool)
  | .pCfgResult id _ => some (id, false)
  | .pSubResult id _ _ => some (id, false)
  | .pResult id ok _ => some (id, !ok)
  | _ => none

/-- going from `s` to `s'` neither subscribes nor completes the handshake -/
def Quiet (s s' : HS) : Prop :=
  (s'.subscribed = true → s.subscribed = true) ∧ (s'.finished = some .connected → s.finished = some .connected)

theorem quiet_same {s s' : HS} (h1 : s'.subscribed = s.subscribed) (h2 : s'.finished = s.finished) : Quiet s s' :=
  ⟨fun h => h1 ▸ h, fun h => h2 ▸ h⟩

theorem quiet_fail (s : HS) (k : String) : Quiet s (fail s k).1 := ⟨fun h => h, nofun⟩

theorem quiet_dial {s s1 : HS} {u : PoolUrl} {f : Out} (h : dial s u = some (s1, f)) (id : String) (k : HKind) :
    Quiet s (setHandler s1 id k) := by
  unfold dial at h
  split at h
  · cases h; exact quiet_same rfl rfl
  · cases h

theorem onConfigure_quiet (s : HS) (id mask minbits c : String) : Quiet s (onConfigure s id mask minbits c).1 := by
  fun_cases onConfigure s id mask minbits c
  · exact quiet_fail s _
  · exact quiet_fail s _
  · exact quiet_fail s _
  · exact quiet_dial ‹_› id .configure

theorem onSubscribe_quiet (s : HS) (id : String) : Quiet { s with subscribed := true } (onSubscribe s id).1 := by
  fun_cases onSubscribe s id
  · exact quiet_same rfl rfl
  · exact quiet_dial ‹_› id .subscribe
  · exact quiet_fail _ _

theorem onAuthorize_quiet (s : HS) (id user : String) : Quiet s (onAuthorize s id user).1 := by
  fun_cases onAuthorize s id user
  · exact quiet_fail s _
  · exact quiet_fail s _
  · exact quiet_same rfl rfl

theorem onResult_quiet (s : HS) (id : String) (sh : Shape) (refusal : Bool) (line : String) :
    Quiet s (onResult s id sh refusal line).1 ∨
    (onResult s id sh refusal line).1.subscribed = s.subscribed ∧
      s.handlers.find? (·.1 = id) = some (id, .authorize) ∧ refusal = false := by
  fun_cases onResult s id sh refusal line
  · exact .inl (quiet_same rfl rfl)
  · exact .inl (quiet_fail (drop s id) _)
  · rename_i x hx hr
    have e : x = id := by simpa using List.find?_some hx
    exact .inr ⟨rfl, by rw [hx, ← e], Bool.not_eq_true _ ▸ hr⟩
  · exact .inl (quiet_same rfl rfl)
  · exact .inl (quiet_fail (drop s id) _)
  · exact .inl (quiet_same rfl rfl)
  · exact .inl (quiet_fail (drop s id) _)

/-- every event is quiet on its connection, except the connection's own subscribe (quiet once `subscribed` is set) and an
accepting reply to a pending authorize -/
theorem step_quiet (s : HS) (ev : Ev) :
    Quiet s (step s ev).1 ∨ (∃ id, ev = .mSubscribe id ∧ Quiet { s with subscribed := true } (step s ev).1) ∨
    (step s ev).1.subscribed = s.subscribed ∧
      ∃ id, replyOf ev = some (id, false) ∧ s.handlers.find? (·.1 = id) = some (id, .authorize) := by
  unfold step
  split
  · exact .inl (quiet_same rfl rfl)
  cases ev with
  | mConfigure id mask minbits c => exact .inl (onConfigure_quiet s id mask minbits c)
  | mSubscribe id => exact .inr (.inl ⟨id, rfl, onSubscribe_quiet s id⟩)
  | mAuthorize id user => exact .inl (onAuthorize_quiet s id user)
  | mSubmit => exact .inl (quiet_fail s _)
  | pCfgResult id _ | pSubResult id _ _ =>
    exact (onResult_quiet s id _ _ _).imp_right fun ⟨h1, h2, _⟩ => .inr ⟨h1, id, rfl, h2⟩
  | pResult id ok payload =>
    exact (onResult_quiet s id _ _ _).imp_right fun ⟨h1, h2, h3⟩ => .inr ⟨h1, id, by rw [replyOf, h3], h2⟩
  | _ => exact .inl (quiet_same rfl rfl)

/-- the only way a connection becomes "subscribed" is its own subscribe request -/
theorem subscribed_only_by_own_subscribe (s : HS) (ev : Ev) (h : (step s ev).1.subscribed = true) :
    s.subscribed = true ∨ ∃ id, ev = .mSubscribe id := by
  rcases step_quiet s ev with q | ⟨id, e, _⟩ | ⟨q, _⟩
  · exact .inl (q.1 h)
  · exact .inr ⟨id, e⟩
  · exact .inl (q ▸ h)

/-- **proceeds to mining only if the pool authorised**: the handshake completes only on a reply,
under the id of a pending authorize request, that is not a refusal -/
theorem connected_only_if_authorised (s : HS) (ev : Ev) (hf : s.finished = none)
    (h : (step s ev).1.finished = some .connected) :
    ∃ id, replyOf ev = some (id, false) ∧ s.handlers.find? (·.1 = id) = some (id, .authorize) := by
  rcases step_quiet s ev with q | ⟨_, _, q⟩ | ⟨_, r⟩
  · cases hf.symm.trans (q.2 h)
  · cases hf.symm.trans (q.2 h)
  · exact r

/-- … and does so on exactly such a reply -/
theorem authorised_connects (s : HS) (id payload : String) (hf : s.finished = none)
    (hh : s.handlers.find? (·.1 = id) = some (id, .authorize)) :
    (step s (.pResult id true payload)).1.finished = some .connected ∧
    (step s (.pResult id true payload)).2 = [.session "connected"] := by
  simp only [step_open hf, stepCore, onResult, hh, Bool.not_true, Bool.false_eq_true, if_false]
  exact ⟨trivial, rfl⟩

/-- a refusal of the pending authorize ends the handshake with a destination error -/
theorem refused_authorize_fails (s : HS) (id payload : String) (hf : s.finished = none)
    (hh : s.handlers.find? (·.1 = id) = some (id, .authorize)) :
    (step s (.pResult id false payload)).1.finished = some (.failed "handshake-dest") := by
  simp [step_open hf, stepCore, onResult, hh, fail]

/-- **unknown contract refused**: a connection announcing a contract address the store does not
know is refused without any pool connection being opened -/
theorem unknown_contract_refused (s : HS) (id mask minbits c : String) (hf : s.finished = none) (hc : c ≠ "")
    (hd : s.dest = none) (hu : s.contracts.find? (·.id = c) = none) :
    (step s (.mConfigure id mask minbits c)).1.finished = some (.failed "unknown-contract") ∧
    (step s (.mConfigure id mask minbits c)).2.filter isFactory = [] ∧
    (step s (.mConfigure id mask minbits c)).1.dest = s.dest := by
  simp only [step_open hf, stepCore, onConfigure, contractTarget, hc, hu, fail, hd]
  simp [isFactory]

/-- **known contract attached to its pool**: a connection announcing a known contract (whose
validator is not the contract itself) is connected to that contract's pool destination, and its
configure is forwarded there -/
theorem known_contract_routed (s : HS) (id mask minbits c : String) (ct : Contract) (u : PoolUrl)
    (hf : s.finished = none) (hc : c ≠ "") (hd : s.dest = none)
    (hk : s.contracts.find? (·.id = c) = some ct) (hv : ct.validator ≠ c)
    (hp : s.pools.find? (·.host = ct.pool) = some u) (hr : s.reachable.contains u.host = true) :
    ∃ n, (step s (.mConfigure id mask minbits c)).1.dest = some (u.host, n) ∧
         (step s (.mConfigure id mask minbits c)).1.destUrl = some u ∧
         (step s (.mConfigure id mask minbits c)).1.finished = none ∧
         Out.toPool u.host n s!"configure id={id} mask={mask} minbits={minbits} contract={c}" ∈ (step s (.mConfigure id mask minbits c)).2 := by
  simp only [step_open hf, stepCore, onConfigure, contractTarget, hc, hk, hv, hp, Option.isSome_none, Bool.false_eq_true, if_false,
    dial, hr, if_true, hd]
  exact ⟨_, rfl, rfl, by simp [setHandler, hf], by simp [poolOut]⟩

/-- a configure on a connection that already has a destination is refused: the destination of a
connection is chosen once -/
theorem second_configure_refused (s : HS) (id mask minbits c : String) (d : String × Nat) (hf : s.finished = none)
    (hd : s.dest = some d) :
    (step s (.mConfigure id mask minbits c)).1.finished = some (.failed "handshake-source") ∧
    (step s (.mConfigure id mask minbits c)).1.dest = s.dest := by
  simp [step_open hf, stepCore, onConfigure, hd, fail]

/-- a process is a list of connections; an event of connection `i` is handled by `step` on that
connection's own state -/
def pstep (cs : List HS) (i : Nat) (ev : Ev) : List HS × List Out :=
  match cs[i]? with
  | none => (cs, [])
  | some s => (cs.set i (step s ev).1, (step s ev).2)

/-- **regardless of what any other connection has done**: an event changes no other connection, and
what it does to its own connection — new state and everything sent — depends on that connection's
state alone -/
theorem connections_do_not_interfere (cs cs' : List HS) (i : Nat) (ev : Ev) (s : HS)
    (h : cs[i]? = some s) (h' : cs'[i]? = some s) :
    (∀ j, j ≠ i → (pstep cs i ev).1[j]? = cs[j]?) ∧
    (pstep cs i ev).2 = (pstep cs' i ev).2 ∧ (pstep cs i ev).1[i]? = (pstep cs' i ev).1[i]? := by
  unfold pstep
  simp only [h, h']
  refine ⟨fun j hj => List.getElem?_set_ne hj.symm, trivial, ?_⟩
  rw [List.getElem?_set_self', List.getElem?_set_self', h, h']

/-! ### non-vacuity -/

def exHS : HS :=
  { notPropagate := false, defaultPool := { host := "pa", user := "acctpa.wpa", pwd := "pwdpa" },
    pools := [{ host := "pa", user := "acctpa.wpa", pwd := "pwdpa" }], reachable := ["pa"], contracts := [] }

example :
    let s1 := (step exHS (.mSubscribe "2")).1
    let s2 := (step s1 (.mAuthorize "3" "acct.rig7")).1
    s1.subscribed = true ∧ s2.handlers.find? (·.1 = "3") = some ("3", .authorize) ∧
    (step s2 (.pResult "3" true "ok")).1.finished = some .connected := by decide

/-! ### one connection = one state also outside the proxy: the per-connection handler (regenerated) -/

def lookupW (l : List (String × String)) (k : String) : Option String := (l.find? (·.1 = k)).map (·.2)

/-- the per-connection handler gives every connection *its own copy* of the configured destination: the proxy and the
scheduler are built on `url`, and `url` is `lib.CopyURL(defaultDestUrl)` — the handshake writes the miner's worker name
through that pointer (`onMiningAuthorize`), so without the copy one connection would edit every later connection's
destination account -/
theorem source_handler_clones_destination :
    lookupW PRV.Gen.Wiring.handlerProxyArgs "destURL" = some "url" ∧
    lookupW PRV.Gen.Wiring.handlerSchedulerArgs "defaultDest" = some "url" ∧
    lookupW PRV.Gen.Wiring.handlerLocals "url" = some "lib.CopyURL(defaultDestUrl)" ∧
    lookupW PRV.Gen.Wiring.proxyFields "destURL" = some "atomic.NewPointer(destURL)" := by decide +kernel

/-! ### replies are correlated with requests: the answer's handler is in place before the pool can answer (regenerated order) -/

section answerRace
open PRV.Model.AnswerRace

/-- each of the three handshake handlers registers the answer's callback before it writes the request -/
theorem source_handler_registered_before_write :
    PRV.Gen.C15.onMiningConfigureCalls = ["dest.onceResult", "dest.Write"] ∧
    PRV.Gen.C15.onMiningSubscribeCalls = ["dest.onceResult", "dest.Write"] ∧
    PRV.Gen.C15.onMiningAuthorizeCalls = ["dest.onceResult", "dest.Write"] := ⟨rfl, rfl, rfl⟩

/-- **in the code's order the pool's answer always finds its handler**, however the reader goroutine is scheduled against the
sender (over the regenerated order of each handler): the miner gets one acknowledgement and the handshake goes on -/
theorem answer_finds_its_handler :
    ∀ calls ∈ [PRV.Gen.C15.onMiningConfigureCalls, PRV.Gen.C15.onMiningSubscribeCalls, PRV.Gen.C15.onMiningAuthorizeCalls],
      ∀ tr ∈ merges (senderOf calls) [.answer], valid tr = true → good (run tr) = true := by decide +kernel

/-- written first and registered afterwards, a fast pool's answer can be read in between: no handler is found, the answer goes
to the miner as a second result and the handshake never completes -/
theorem write_before_register_loses_the_answer :
    ∃ tr ∈ merges [.write, .register] [.answer], valid tr = true ∧ good (run tr) = false := by decide +kernel

end answerRace

end PRV.Props.C15
