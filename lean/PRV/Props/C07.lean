import PRV.Proofs.C07Slow
import PRV.Gen.C07
import PRV.Gen.C13
/-
C07 — Task queue served in order; a removed contract stops receiving hashrate.
The model (`Model/Sched.lean`) is run against the real Scheduler/TaskList on every check; these are
the property theorems about it, for every event sequence.
-/
namespace PRV.Props.C07
open PRV.Model.Sched PRV.Proofs.C07

theorem advance_spec (fuel : Nat) : ∀ (s : Sched) (target : Int), WF s →
    WF (advance fuel s target).1 ∧ Quiescent (advance fuel s target).1 :=
  fun s target h => ⟨(advance_ok fuel s target h).1, (advance_ok fuel s target h).2.1⟩

def key (t : Task) : Nat × String := (t.tid, t.cid)

/-- the task an event adds to the queue -/
def newKeys (s : Sched) : Ev → List (Nat × String)
  | .add cid _ _ _ => if s.exited then [] else [(s.serial, cid)]
  | _ => []

/-- what an event makes of `s`: the queue of `r` is, in order, a sub-sequence of the queue of `s` plus the tasks `ks` the
event added (at the back) — nothing is reordered, nothing enters except through `add`, a task keeps its contract -/
structure After (s r : Sched) (ks : List (Nat × String)) : Prop where
  wf        : WF r
  quiescent : Quiescent s → Quiescent r
  keys      : (r.tl.tasks.map key).Sublist (s.tl.tasks.map key ++ ks)
  serial    : r.serial = s.serial + ks.length

/-- the scheduler's run after an event's queue update `s1` -/
theorem step_of_settle {s s1 : Sched} {ks : List (Nat × String)} (hw : WF s1)
    (hk : (s1.tl.tasks.map key).Sublist (s.tl.tasks.map key ++ ks)) (hs : s1.serial = s.serial + ks.length) :
    After s (settle (fuelFor s1) s1).1 ks :=
  have sp := settle_spec _ _ hw (fuel_ok _)
  ⟨sp.wf, fun _ => sp.quiescent, (sp.suffix.sublist.map key).trans hk, sp.serial.trans hs⟩

/-- **Every event leaves the scheduler well-formed and blocked in a quiescent state**: parked on
the primary destination with an empty queue, or serving the head of the queue with its callback
installed — the head being neither finished, removed nor past its deadline. -/
theorem step_spec (s : Sched) (ev : Ev) (h : WF s) : After s (step s ev).1 (newKeys s ev) := by
  have sub : ∀ {l : List (Nat × String)} (ks : List (Nat × String)), l.Sublist (s.tl.tasks.map key) →
      l.Sublist (s.tl.tasks.map key ++ ks) := fun ks hl => hl.trans (List.sublist_append_left _ ks)
  obtain ⟨hsz, htk, hts⟩ := dropInService_spec s.tl h.size h.head
  have hk := sub [] ((hts ▸ pending_suffix s.tl).sublist.map key)
  -- the branches of `step` in order: exited; add; remove; tick; share (credited to the task in service, for another task,
  -- nothing in service); proxy exit (destination error on the primary destination, elsewhere; the miner is gone)
  fun_cases step s ev with
  | case1 ev hex => exact ⟨h, id, sub _ (List.Sublist.refl _), by cases ev <;> simp [newKeys, hex]⟩
  | case2 hex cid dest job deadline t s1 =>
    exact step_of_settle (wf_add s _ h) (by simp [s1, t, TaskList.add, newKeys, key, hex]) (by simp [s1, newKeys, hex])
  | case3 hex cid => exact step_of_settle (wf_cancel s cid h) (sub _ (cancel_sublist key (fun _ => rfl) s.tl cid)) rfl
  | case4 hex now =>
    obtain ⟨a, b, c, d⟩ := advance_ok (s.tl.tasks.length + 1) s now h
    exact ⟨a, fun _ => b, sub _ (c.sublist.map key), d⟩
  | case5 hex diff tid t rest htasks hcb htt rem t' s1 =>
    refine step_of_settle (ks := []) (wf_tl s _ h ?_ rfl fun t0 rest0 _ e => ?_) (by simp [s1, t', htasks, key]) rfl
    · simpa [htasks] using h.size
    · rw [htasks] at e; cases e; exact ⟨_, rest, rfl, rfl, rfl⟩
  | case6 => exact ⟨h, id, sub _ (List.Sublist.refl _), rfl⟩
  | case7 => exact ⟨h, id, sub _ (List.Sublist.refl _), rfl⟩
  | case8 hex head hc => exact ⟨wf_free _ hsz htk fun _ => ⟨hc, rfl⟩, fun _ => Or.inl rfl, hk, rfl⟩
  | case9 => exact step_of_settle (wf_free _ hsz htk fun x => nomatch x) hk rfl
  | case10 => exact ⟨wf_free _ hsz htk fun x => ⟨(h.idle x).1, (h.idle x).2.1⟩, fun _ => Or.inl rfl, hk, rfl⟩

/-- start-up parks the scheduler on the primary destination, the queue empty -/
theorem init_wf_quiescent (primary : String) : WF (init primary).1 ∧ Quiescent (init primary).1 :=
  ⟨⟨rfl, nofun, fun _ => ⟨rfl, rfl, rfl⟩⟩, Or.inr (Or.inl ⟨rfl, rfl, rfl, rfl, rfl⟩)⟩

/-- Reachable states: from `init` by any event sequence. -/
def runState (s : Sched) : List Ev → Sched
  | [] => s
  | e :: es => runState (step s e).1 es

/-- for every event history the scheduler ends well-formed and quiescent -/
theorem reachable_wf_quiescent (primary : String) (evs : List Ev) :
    WF (runState (init primary).1 evs) ∧ Quiescent (runState (init primary).1 evs) := by
  suffices ∀ s, WF s → Quiescent s → WF (runState s evs) ∧ Quiescent (runState s evs) from
    this _ (init_wf_quiescent primary).1 (init_wf_quiescent primary).2
  induction evs with
  | nil => exact fun s a b => ⟨a, b⟩
  | cons e es ih => exact fun s a b => ih _ (step_spec s e a).wf ((step_spec s e a).quiescent b)

/-- "when the queue is empty the miner returns to its default destination"; "once activity
settles, the reported queue length equals the number of tasks neither ended nor removed" -/
theorem settled_state (primary : String) (evs : List Ev) :
    let s := runState (init primary).1 evs
    s.tl.size = s.tl.tasks.length ∧
    (s.exited = false → s.tl.tasks = [] → s.cur = s.primary ∧ s.cb = none) ∧
    (s.exited = false → ∀ t rest, s.tl.tasks = t :: rest →
        s.cur = t.dest ∧ s.cb = some t.tid ∧ t.cancelled = false ∧ s.now < t.deadline) := by
  obtain ⟨hw, hq⟩ := reachable_wf_quiescent primary evs
  refine ⟨hw.size, ?_⟩
  rcases hq with h | ⟨hl, _, _, a, b⟩ | ⟨t, rest, hl, _, c, d, a, b⟩
  · exact ⟨(fun hne => nomatch h.symm.trans hne), fun hne => nomatch h.symm.trans hne⟩
  · exact ⟨fun _ _ => ⟨a, b⟩, fun _ t rest ht => nomatch hl.symm.trans ht⟩
  · exact ⟨(fun _ hnil => nomatch hl.symm.trans hnil), fun _ t' rest' ht => by cases hl.symm.trans ht; exact ⟨a, b, c, d⟩⟩

/-- After the tasks of a contract are removed, none is left once the scheduler is quiescent (the
one in service has been retired), and while handling the removal the miner is never pointed at a
task of that contract. -/
theorem remove_spec (s : Sched) (cid : String) (h : WF s) (hne : s.exited = false) :
    (∀ t ∈ (step s (.remove cid)).1.tl.tasks, t.cid ≠ cid) ∧
    (∀ d, Out.setDest d true ∈ (step s (.remove cid)).2 → ∃ t ∈ s.tl.tasks, t.dest = d ∧ t.cid ≠ cid) := by
  unfold step
  rw [if_neg (by simp [hne])]
  simp only
  have sp := settle_spec _ _ (wf_cancel s cid h) (fuel_ok _)
  -- no task of the contract is left behind the one in service
  have hpend : ∀ t ∈ pending (s.tl.cancel cid), t ∈ s.tl.tasks ∧ t.cid ≠ cid := fun t ht => by
    rw [cancel_pending] at ht
    exact ⟨(pending_suffix s.tl).subset (mem_other ht).1, (mem_other ht).2⟩
  refine ⟨fun t ht hcid => ?_, fun d hd => ?_⟩
  · rcases sp.quiescent with hq | hq | ⟨t', rest, hl, _, hc', _⟩
    · exact nomatch hq.symm.trans (sp.exited.trans hne)
    · rw [hq.1] at ht; cases ht
    · have hsuf := hl ▸ sp.suffix
      rw [hl] at ht
      rcases List.mem_cons.mp ht with rfl | ht
      · -- the task in service, if it is of the contract, is marked: `settle` does not stop at it
        have := (cancel_mem s.tl cid t (hsuf.subset List.mem_cons_self)).2 hcid
        rw [hc'] at this
        cases this
      · exact (hpend t (((suffix_tail hsuf).trans (tail_suffix_pending _)).subset ht)).2 hcid
  · obtain ⟨t, ht, hdd, _⟩ := sp.setdest d hd
    exact ⟨t, (hpend t ht).1, hdd, (hpend t ht).2⟩

/-- strictly increasing serials, all below the next serial: the queue is in arrival order -/
def InOrder (s : Sched) : Prop :=
  (s.tl.tasks.map (·.tid)).Pairwise (· < ·) ∧ ∀ t ∈ s.tl.tasks, t.tid < s.serial

theorem inOrder_iff (s : Sched) : InOrder s ↔ (s.tl.tasks.map (·.tid) ++ [s.serial]).Pairwise (· < ·) := by
  rw [List.pairwise_append]
  simp only [InOrder, List.pairwise_singleton, true_and, List.mem_map, List.mem_singleton, forall_exists_index, and_imp,
    forall_apply_eq_imp_iff₂, forall_eq]

/-- **Arrival order.** The queue is always in arrival order (and the task in service is its head, see
`settled_state`), so tasks are served one at a time in the order they were added. -/
theorem step_in_order (s : Sched) (ev : Ev) (h : WF s) (hex : s.exited = false) (ho : InOrder s) :
    InOrder (step s ev).1 := by
  obtain ⟨_, _, hsub, hser⟩ := step_spec s ev h
  have hsub1 : ((step s ev).1.tl.tasks.map (·.tid)).Sublist (s.tl.tasks.map (·.tid) ++ (newKeys s ev).map (·.1)) := by
    simpa [key, Function.comp_def] using hsub.map Prod.fst
  rw [inOrder_iff] at ho ⊢
  rw [hser]
  refine List.Pairwise.sublist (hsub1.append (List.Sublist.refl _)) ?_
  cases ev with
  | add cid dest job deadline => simpa [newKeys, hex] using pairwise_snoc ho (Nat.lt_succ_self _)
  | _ => simpa [newKeys] using ho

theorem mem_newKeys {s : Sched} {ev : Ev} {k : Nat × String} (h : k ∈ newKeys s ev) : ∃ d j dl, ev = .add k.2 d j dl := by
  cases ev <;> simp only [newKeys, List.not_mem_nil] at h
  split at h <;> simp only [List.mem_singleton, List.not_mem_nil] at h
  subst h; exact ⟨_, _, _, rfl⟩

/-- Events other than adding a task of the contract never bring the contract back into the queue
(so after a removal the miner is not pointed at its destination again unless a new task is added:
a destination is only ever set, with a callback, for a task that is in the queue). -/
theorem no_task_of_contract_preserved (s : Sched) (cid : String) (ev : Ev) (h : WF s)
    (hno : ∀ t ∈ s.tl.tasks, t.cid ≠ cid)
    (hev : ∀ d j dl, ev ≠ .add cid d j dl) :
    (∀ t ∈ (step s ev).1.tl.tasks, t.cid ≠ cid) := by
  intro t ht hcid
  rcases List.mem_append.mp ((step_spec s ev h).keys.subset (List.mem_map_of_mem ht)) with hm | hm
  · obtain ⟨t', ht', e⟩ := List.mem_map.mp hm
    exact hno t' ht' ((congrArg Prod.snd e).trans hcid)
  · obtain ⟨d, j, dl, e⟩ := mem_newKeys hm
    exact hev d j dl (hcid ▸ e)

/-- when the miner disconnects (the proxy exits with anything but a destination error) every task
that is in service or still queued has its end callback invoked, and is told about the disconnect -/
theorem exit_notifies_all (s : Sched) (hex : s.exited = false) (t : Task) (ht : t ∈ s.tl.tasks) :
    Out.onEnd t.tid t.remaining .minerDisconnected ∈ (step s (.proxyExit false)).2 ∧
    Out.onDisconnect t.tid t.remaining ∈ (step s (.proxyExit false)).2 ∧
    (step s (.proxyExit false)).1.exited = true := by
  unfold step
  rw [if_neg (by simp [hex])]
  simp only [Bool.false_eq_true, if_false, List.mem_append, disconnectOuts, List.mem_flatMap, List.mem_cons,
    List.not_mem_nil, or_false]
  exact ⟨Or.inl (Or.inr ⟨t, ht, Or.inr rfl⟩), Or.inl (Or.inr ⟨t, ht, Or.inl rfl⟩), trivial⟩

/-- While time passes, shares arrive or contracts are removed, a task's end callback is invoked
with "done" only if its work amount has been submitted or it was removed (it is cancelled), and
with "deadline" only if its deadline has passed. -/
theorem end_cause (fuel : Nat) (s : Sched) (h : WF s) (hf : s.tl.tasks.length < fuel)
    (tid : Nat) (r : Int) (k : EndKind) (ho : Out.onEnd tid r k ∈ (settle fuel s).2) :
    ∃ t ∈ s.tl.tasks, t.tid = tid ∧ t.remaining = r ∧
      ((k = .done ∧ t.cancelled = true) ∨ (k = .deadline ∧ t.deadline ≤ s.now)) :=
  (settle_spec fuel s h hf).onend tid r k ho

/-- `Cancel(contract)`: the task in service (if it belongs to the contract) is marked cancelled and
stays at the head; every other task of the contract is removed; all other tasks stay, in order. -/
theorem tasklist_cancel_spec (l : TaskList) (cid : String) (t0 : Task) (rest : List Task)
    (hl : l.tasks = t0 :: rest) :
    (l.cancel cid).tasks =
      if l.taken = true ∧ t0.cid = cid then { t0 with cancelled := true } :: rest.filter (other cid)
      else (t0 :: rest).filter (other cid) := cancel_tasks l cid hl

theorem tasklist_size (l : TaskList) (cid : String) (h : l.size = l.tasks.length) :
    (l.cancel cid).size = (l.cancel cid).tasks.length := cancel_size l cid h

/-! ### the order in the source (regenerated from `Scheduler.taskLoop` on every run) -/

/-- **the owner is told before the slot is freed**: in every `select` case of `taskLoop` that retires a task, `OnEnd` is
called before `UnlockAndRemove` — the model's `retire` (report, then remove) in that order; a miner never looks free while
the end notification of its task is still to come.  (Four such cases: removed / finished and past the deadline, before and
after the destination change.) -/
theorem source_onEnd_before_unlock :
    ((PRV.Gen.C07.taskLoopBranches.filter (·.contains "UnlockAndRemove")).all
        fun b => decide (b.idxOf "OnEnd" < b.idxOf "UnlockAndRemove")) = true ∧
    (PRV.Gen.C07.taskLoopBranches.filter (·.contains "UnlockAndRemove")).length = 4 ∧
    (PRV.Gen.C07.taskLoopBranches.filter (·.contains "OnEnd")).length = 6 := by decide +kernel

/-- a miner whose session ends is marked as disconnecting *first*, whether or not it holds tasks: the allocator's eligibility
test reads that flag, and a task handed to a miner between the end of its session and its removal from the list would never
be served, ended or signalled -/
theorem source_disconnect_marks_first : (PRV.Gen.C13.onDisconnectCalls.head? = some "isDisconnecting.Store") := rfl

/-! ### non-vacuity -/
example : (run (init "p").1 [.add "c0" "d0" 1000 50, .add "c0" "d0" 1000 50, .add "c1" "d1" 5 60,
      .remove "c0", .share 5]) =
    [[.setDest "d0" true], [], [], [.onEnd 0 1000 .done, .setDest "d1" true],
     [.onSubmit 2 5, .onEnd 2 0 .done, .setDest "p" false]] := by
  decide +kernel

end PRV.Props.C07

/-! ## Destination changes that take time (`Model/SchedSlow.lean`)

The same scheduler with the goroutine's position explicit: events arrive while it is inside the proxy's
`SetDest`.  The harness runs the real `Scheduler` over a proxy whose `SetDest` blocks until released. -/
namespace PRV.Props.C07.Slow
open PRV.Model.SchedSlow PRV.Proofs.C07Slow
open PRV.Model.Sched (Task EndKind)

def addsTo (cid : String) : Ev → Prop
  | .add c _ _ _ => c = cid
  | _ => False

/-- what an event is made of: updates of the queue, of the clock or of what the proxy holds (`Quiet`) and wakes of the
goroutine, one after the other -/
inductive Moves (ev : Ev) : S → List OutS → S → Prop
  | seq {s r r' : S} {o o' : List OutS} : Moves ev s o r → Moves ev r o' r' → Moves ev s (o ++ o') r'
  | wake (s : S) : Moves ev s (wake s).2 (wake s).1
  | quiet {s r : S} {o : List OutS} : (WFs s → Quiet (addsTo · ev) s o r) → Moves ev s o r

theorem Moves.refl (ev : Ev) (s : S) : Moves ev s [] s := .quiet (.refl _ s)

theorem step_moves (s : S) (ev : Ev) : Moves ev s (step s ev).2 (step s ev).1 := by
  unfold step
  by_cases hex : s.pc = .exited
  · rw [if_pos hex]; exact .refl ev s
  rw [if_neg hex]
  cases ev with
  | add c dest job deadline => exact .seq (o := []) (.quiet (quiet_add s c dest job deadline)) (.wake _)
  | remove c => exact .seq (.quiet (quiet_cancel _ s c)) (.wake _)
  | tick target =>
    refine .seq ?_ (.seq (.quiet (quiet_now _ _ _)) (.wake _))
    unfold tickHead
    split
    · split
      · exact .seq (.quiet (quiet_now _ s _)) (.wake _)
      · exact .refl _ s
    · exact .refl _ s
  | share diff =>
    simp only
    split
    · exact .refl _ s
    · rename_i tid _
      refine .seq (.quiet (quiet_base _ s (.onSubmit tid diff))) (.seq (o := []) ?_ (.wake _))
      unfold credit
      simp only
      split
      · exact .seq (.quiet (quiet_setRem _ s tid _)) (.quiet (quiet_markDone _ _ tid))
      · exact .quiet (quiet_setRem _ s tid _)
  | release => exact .seq (.quiet (quiet_arrive _ s)) (.wake _)
  | proxyExit => exact .quiet (quiet_leave _ s)

theorem moves_wfs {ev : Ev} {s r : S} {o : List OutS} (h : Moves ev s o r) (hw : WFs s) : WFs r := by
  induction h with
  | seq _ _ ih1 ih2 => exact ih2 (ih1 hw)
  | wake s => exact (wake_spec s hw).1.wf
  | quiet q => exact (q hw).wfs

theorem step_wfs (s : S) (ev : Ev) (hw : WFs s) : WFs (step s ev).1 := moves_wfs (step_moves s ev) hw

/-- start-up leaves the goroutine inside `SetDest(primary)` with an empty queue -/
theorem init_wfs (primary : String) : WFs (init primary).1 := ⟨rfl, fun _ => rfl, nofun, nofun⟩

/-- **every reachable state is well-formed** — the reported queue length is the number of queued tasks, and the
goroutine holds the head of the queue exactly while it is inside that task's `SetDest` or serving it — for every
history of events and releases, however they interleave with the destination changes -/
theorem reachable_wfs (primary : String) (evs : List Ev) : WFs (PRV.Model.SchedSlow.runState (init primary).1 evs) := by
  suffices ∀ s, WFs s → WFs (PRV.Model.SchedSlow.runState s evs) from this _ (init_wfs primary)
  induction evs with
  | nil => intro s h; exact h
  | cons e es ih => intro s h; exact ih _ (step_wfs s e h)

/-- **a `SetDest` is entered only for a live task**: whenever the scheduler starts pointing the miner at a task's
destination, that task is queued, was neither removed nor finished, and is not past its deadline -/
theorem begin_is_live (s : S) (hw : WFs s) (d : String) (t : Task) (h : OutS.begin d (some t) ∈ (wake s).2) :
    t ∈ s.tl.tasks ∧ t.dest = d ∧ t.cancelled = false ∧ s.now < t.deadline :=
  (wake_spec s hw).1.begins d t h

/-- a task is ended with "done" only if it was removed or its work was submitted, with "deadline" only past its deadline -/
theorem end_cause (s : S) (hw : WFs s) (tid : Nat) (rm : Int) (k : EndKind) (h : OutS.base (.onEnd tid rm k) ∈ (wake s).2) :
    ∃ t ∈ s.tl.tasks, t.tid = tid ∧ ((k = .done ∧ t.cancelled = true) ∨ (k = .deadline ∧ t.deadline ≤ s.now)) :=
  (wake_spec s hw).1.ends_ok tid rm k h

/-- **removing a contract**: afterwards none of its tasks is queued un-cancelled, and the removal itself does not
point the miner at it — also when it arrives while the scheduler is inside a `SetDest` -/
theorem remove_cleans (s : S) (cid : String) (hw : WFs s) (hex : s.pc ≠ .exited) :
    Clean cid (step s (.remove cid)).1 ∧ NoBegin cid (step s (.remove cid)).2 := by
  unfold step
  simp only [hex, if_false]
  exact wake_clean _ cid (wfs_cancel s cid hw) (cancel_cleans s cid)

/-- an event other than a new task for the contract, from a state in which the contract's tasks are all removed /
finished: it stays that way, and no `SetDest` is entered towards it -/
theorem moves_clean {ev : Ev} {s r : S} {o : List OutS} (cid : String) (h : Moves ev s o r) (hw : WFs s)
    (hc : Clean cid s) (hev : ¬ addsTo cid ev) : Clean cid r ∧ NoBegin cid o := by
  induction h with
  | seq h1 _ ih1 ih2 =>
    obtain ⟨hc1, hn1⟩ := ih1 hw hc
    obtain ⟨hc2, hn2⟩ := ih2 (moves_wfs h1 hw) hc1
    exact ⟨hc2, fun d t hm => (List.mem_append.mp hm).elim (hn1 d t) (hn2 d t)⟩
  | wake s => exact wake_clean s cid hw hc
  | quiet q => exact ⟨(q hw).clean cid hev hc, fun d t hm => absurd hm ((q hw).nobegin d _)⟩

/-- … and **it stays that way**: no later event other than a new task for that contract makes the scheduler enter a
`SetDest` towards it (a destination change that was already under way when the removal arrived completes, and the
task is dropped at once) -/
theorem step_clean (s : S) (cid : String) (ev : Ev) (hw : WFs s) (hc : Clean cid s) (hev : ¬ addsTo cid ev) :
    Clean cid (step s ev).1 ∧ NoBegin cid (step s ev).2 := moves_clean cid (step_moves s ev) hw hc hev

theorem run_clean (cid : String) (evs : List Ev) : ∀ s, WFs s → Clean cid s → (∀ ev ∈ evs, ¬ addsTo cid ev) →
    ∀ outs ∈ PRV.Model.SchedSlow.run s evs, NoBegin cid outs := by
  induction evs with
  | nil => exact fun _ _ _ _ _ ho => nomatch ho
  | cons e es ih =>
    intro s hw hc hevs
    obtain ⟨he, hes⟩ := List.forall_mem_cons.mp hevs
    obtain ⟨hc1, hn1⟩ := step_clean s cid e hw hc he
    exact List.forall_mem_cons.mpr ⟨hn1, ih _ (step_wfs s e hw) hc1 hes⟩

/-- **a removed contract is not pointed at again, for every later history** without a new task for it -/
theorem removed_contract_never_begun (s : S) (cid : String) (evs : List Ev) (hw : WFs s) (hex : s.pc ≠ .exited)
    (hevs : ∀ ev ∈ evs, ¬ addsTo cid ev) :
    ∀ outs ∈ PRV.Model.SchedSlow.run (step s (.remove cid)).1 evs, NoBegin cid outs :=
  run_clean cid evs _ (step_wfs s _ hw) (remove_cleans s cid hw hex).1 hevs

/-- when the proxy answers, the destination and the callback installed are the ones of the `SetDest` that was entered -/
theorem release_installs (s : S) (tid : Nat) (dest : String) (hw : WFs s) (hpc : s.pc = .toTask tid dest) :
    (step s .release).1.cur = dest ∧ (step s .release).1.cb = some tid ∧
    OutS.base (.setDest dest true) ∈ (step s .release).2 := by
  have hex : s.pc ≠ .exited := by rw [hpc]; simp
  have hav : arrive s = ({ s with cur := dest, cb := some tid, pc := .serving }, [.base (.setDest dest true)]) := by
    unfold arrive; rw [hpc]
  unfold step
  simp only [hex, if_false]
  have sp := (wake_spec (arrive s).1 (quiet_arrive (fun _ => False) s hw).wfs).1
  refine ⟨by rw [sp.cur, hav], by rw [sp.cb, hav], ?_⟩
  rw [hav]; exact List.mem_append_left _ List.mem_cons_self

/-- an event from an ordered state: every `SetDest` entered during it is for a task that arrived after the one a `SetDest`
was last entered for (`b`), and before or at the new last one (`b'`) -/
theorem moves_ord {ev : Ev} {s r : S} {o : List OutS} (h : Moves ev s o r) (hw : WFs s) : ∀ b, OrdInv s b →
    ∃ b', OrdInv r b' ∧ b ≤ b' ∧ ∀ d t, OutS.begin d (some t) ∈ o → b < (t.tid : Int) ∧ (t.tid : Int) ≤ b' := by
  induction h with
  | seq h1 _ ih1 ih2 =>
    intro b h
    obtain ⟨b1, hi1, hle1, hb1⟩ := ih1 hw b h
    obtain ⟨b2, hi2, hle2, hb2⟩ := ih2 (moves_wfs h1 hw) b1 hi1
    refine ⟨b2, hi2, Int.le_trans hle1 hle2, fun d t hm => ?_⟩
    rcases List.mem_append.mp hm with hm | hm
    · exact ⟨(hb1 d t hm).1, Int.le_trans (hb1 d t hm).2 hle2⟩
    · exact ⟨Int.lt_of_le_of_lt hle1 (hb2 d t hm).1, (hb2 d t hm).2⟩
  | wake s => exact fun b h => wake_ord s b hw h
  | quiet q => exact fun b h => ⟨b, (q hw).ord b h, Int.le_refl b, fun d t hm => absurd hm ((q hw).nobegin d _)⟩

theorem init_ord (primary : String) : OrdInv (init primary).1 (-1) :=
  ⟨show [(-1 : Int), 0].Pairwise (· < ·) by decide, nofun⟩

/-- **tasks are put in service in arrival order, each at most once**: in every history of events and releases, a `SetDest`
entered at a later step is for a task that arrived later than any task a `SetDest` was entered for at an earlier step -/
theorem begun_in_arrival_order (s : S) (b : Int) (evs : List Ev) (hw : WFs s) (h : OrdInv s b) :
    (∀ outs ∈ PRV.Model.SchedSlow.run s evs, ∀ d t, OutS.begin d (some t) ∈ outs → b < (t.tid : Int)) ∧
    (PRV.Model.SchedSlow.run s evs).Pairwise fun o1 o2 =>
      ∀ d1 t1 d2 t2, OutS.begin d1 (some t1) ∈ o1 → OutS.begin d2 (some t2) ∈ o2 → t1.tid < t2.tid := by
  induction evs generalizing s b with
  | nil => exact ⟨(fun _ ho => nomatch ho), List.Pairwise.nil⟩
  | cons e es ih =>
    obtain ⟨b', hi, hle, hb⟩ := moves_ord (step_moves s e) hw b h
    obtain ⟨ih1, ih2⟩ := ih (step s e).1 b' (step_wfs s e hw) hi
    refine ⟨List.forall_mem_cons.mpr ⟨fun d t hm => (hb d t hm).1, fun outs ho d t hm => Int.lt_of_le_of_lt hle (ih1 outs ho d t hm)⟩,
      List.Pairwise.cons (fun o2 ho2 d1 t1 d2 t2 hm1 hm2 => ?_) ih2⟩
    exact Int.ofNat_lt.mp (Int.lt_of_le_of_lt (hb d1 t1 hm1).2 (ih1 o2 ho2 d2 t2 hm2))

/-- … from start-up, for every history -/
theorem served_in_arrival_order (primary : String) (evs : List Ev) :
    (PRV.Model.SchedSlow.run (init primary).1 evs).Pairwise fun o1 o2 =>
      ∀ d1 t1 d2 t2, OutS.begin d1 (some t1) ∈ o1 → OutS.begin d2 (some t2) ∈ o2 → t1.tid < t2.tid :=
  (begun_in_arrival_order _ _ evs (init_wfs primary) (init_ord primary)).2

-- the hypotheses are met: a task is added and removed while the scheduler is inside `SetDest(primary)`
example : (PRV.Model.SchedSlow.run (init "p").1 [.add "c0" "d0" 1000 50, .remove "c0", .release, .release]) =
    [[], [], [OutS.base (.setDest "p" false), OutS.begin "p" none], [OutS.base (.setDest "p" false)]] := by
  decide +kernel

-- … and a removal that arrives while the scheduler is inside the task's own `SetDest`: the change completes and the
-- task is dropped at once
example : (PRV.Model.SchedSlow.run (init "p").1 [.release, .add "c0" "d0" 1000 50, .remove "c0", .release]).getLast? =
    some [OutS.base (.setDest "d0" true), OutS.base (.onEnd 0 1000 .done), OutS.begin "p" none] := by
  decide +kernel

end PRV.Props.C07.Slow
