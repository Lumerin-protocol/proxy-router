import PRV.Model.Parse
import PRV.Proofs.C01
/-
C05 — No peer input can crash the node or disturb other miners.

What is proved: a message that passes the shape validation (whose tables are regenerated from
validate.go) cannot make any of its consumers fault —
 * every getter reads a parameter that exists,
 * the fixed-width slices of the duplicate-detection key (`SerializeShare`) are in range,
 * the header assembly of `ValidateDiffFloat` (operation-by-operation model of C01, with its index,
   word-swap and 32-bit read faults explicit) does not fault,
 * pointer-typed `Params` are never dereferenced when nil, the set_extranonce / subscribe-result type
   assertions hold —
and `ParseStratumMessage` returns no typed message that did not pass it.  Together with the
correspondence check (which runs every hostile line through the real parser and, in six phases,
through a real proxy next to a second connection) this is the "no modelled code path panics" claim.
-/
namespace PRV.Props.C05
open PRV.Base PRV.Gen PRV.Model.Parse PRV.Model.Pow PRV.Proofs.C01

/-! ### facts about the source, regenerated on every run -/

/-- where and how the validation is applied -/
theorem source_facts :
    C05.parserValidates = true ∧ C05.configureNilBeforeIndex = true ∧ C05.subscribeResultChecked = true ∧
    C05.extranonceChecked = true ∧ C05.notifyPrevHash = true ∧ C05.notifyCoinbase = true ∧
    C05.notifyBranches = true ∧ C05.notifyBranchHex = true ∧ C05.notifyCleanFlag = true :=
  ⟨rfl, rfl, rfl, rfl, rfl, rfl, rfl, rfl, rfl⟩

/-- **nil parameters are never dereferenced**: every message type whose `Params` is a pointer is
refused by its `Validate` when that pointer is nil -/
theorem pointer_params_guarded : ∀ t ∈ C05.pointerParams, t ∈ C05.nilGuarded := by decide +kernel

theorem of_guard {f : String → Bool} {o : Option String}
    (h : (match o with | some s => f s | none => false) = true) : ∃ s, o = some s ∧ f s = true := by
  cases o with
  | none => cases h
  | some s => exact ⟨s, rfl, h⟩

/-- `MiningSubmit.Validate`, rule by rule (`Gen.C05.submitRules`); `hexDigits (2 * n)` of validate.go
unfolds to the `hexN n` of the specification -/
theorem submit_rules (ps : List String) (h : submitValid ps = true) :
    5 ≤ ps.length ∧ (∃ s, ps[2]? = some s ∧ isHex s = true) ∧
    (∃ s, ps[3]? = some s ∧ Spec.C01.hexN 4 s = true) ∧ (∃ s, ps[4]? = some s ∧ Spec.C01.hexN 4 s = true) ∧
    ∀ s, ps[5]? = some s → Spec.C01.hexN 4 s = true := by
  simp only [submitValid, C05.submitRules, List.all_cons, List.all_nil, ruleHolds, Bool.and_true,
    Bool.and_eq_true, decide_eq_true_eq] at h
  obtain ⟨hl, h2, h3, h4, h5⟩ := h
  refine ⟨hl, of_guard h2, of_guard h3, of_guard h4, fun s hs => ?_⟩
  rw [hs] at h5
  exact h5

/-- **every getter reads a parameter that exists**: the unguarded getters of `MiningSubmit` index
below the validated minimum length; the one getter above it checks the length itself -/
theorem submit_getters_in_range (ps : List String) (h : submitValid ps = true) :
    ∀ g ∈ C05.getters, g.1 = "MiningSubmit" → (g.2.2.2 = false → g.2.2.1 < ps.length) := by
  have hl := (submit_rules ps h).1
  have tab : ∀ g ∈ C05.getters, g.1 = "MiningSubmit" → g.2.2.2 = false → g.2.2.1 < C05.submitMinParams := by
    decide +kernel
  intro g hg ht hu
  exact Nat.lt_of_lt_of_le (tab g hg ht hu) hl

/-- fixed arrays: a getter of a fixed-size parameter array reads inside the array -/
theorem fixed_getters_in_range :
    ∀ g ∈ C05.getters,
      (g.1 = "MiningAuthorize" ∨ g.1 = "MiningSubscribe" ∨ g.1 = "MiningSetExtranonce" → g.2.2.1 < 2) ∧
      (g.1 = "MiningSetDifficulty" ∨ g.1 = "MiningSetVersionMask" ∨ g.1 = "MiningMultiVersion" → g.2.2.1 < 1) ∧
      (g.1 = "MiningNotify" → g.2.2.1 < 9) := by decide +kernel

/-- **the duplicate-detection key**: `SerializeShare` slices `[:4]` out of the decoded ntime, nonce
and version bits; for a validated submit each of them decodes to exactly four bytes -/
theorem serializeShare_slices_in_range (ps : List String) (h : submitValid ps = true) :
    (∀ nt, ps[3]? = some nt → 4 ≤ (hexDecode nt).length) ∧
    (∀ no, ps[4]? = some no → 4 ≤ (hexDecode no).length) ∧
    (∀ b, ps[5]? = some b → 4 ≤ (hexDecode b).length) := by
  obtain ⟨_, _, ⟨nt, e3, h3⟩, ⟨no, e4, h4⟩, h5⟩ := submit_rules ps h
  have four : ∀ s, Spec.C01.hexN 4 s = true → 4 ≤ (hexDecode s).length :=
    fun s hs => Nat.le_of_eq (hexN_bytes 4 s hs).1.symm
  refine ⟨fun x hx => ?_, fun x hx => ?_, fun x hx => four x (h5 x hx)⟩
  · rw [e3] at hx; cases hx; exact four _ h3
  · rw [e4] at hx; cases hx; exact four _ h4

def slotJVal : Slot → JVal
  | .str s => .str s
  | .strs l => .arr l
  | _ => .other

theorem jobStr_slots {en1 mask : String} {slots : List Slot} {ps : List String} {i : Nat} :
    jobStr { en1 := en1, mask := mask, job := slots.map slotJVal, submit := ps } i = (slotStr slots i).getD "" := by
  simp only [jobStr, slotStr, List.getElem?_map]
  cases slots[i]? with
  | none => rfl
  | some x => cases x <;> rfl

theorem jobArr_slots {en1 mask : String} {slots : List Slot} {ps : List String} {i : Nat} {l : List String}
    (h : slots[i]? = some (.strs l)) :
    jobArr { en1 := en1, mask := mask, job := slots.map slotJVal, submit := ps } i = l := by
  simp only [jobArr, List.getElem?_map, h, Option.map_some, slotJVal]

/-- **`ValidateDiffFloat` does not fault on validated messages**: for a validated job announcement, a
validated submit, a hex extranonce1 (validated where the pool announces it) and a 32-bit mask (the
validator substitutes the zero mask for an absent one), the header assembly of the
operation-by-operation model — every parameter index, the 4-byte word swap of the previous hash,
the 32-bit reads of version, version bits and mask — succeeds, for every hash function -/
theorem validateDiff_header_does_not_fault (H : List Nat → List Nat) (slots : List Slot) (ps : List String)
    (en1 mask : String) (hlen : slots.length = 9) (hn : notifyValid slots = true) (hs : submitValid ps = true)
    (he : isHex en1 = true) (hm : hexDigits C05.hexWordDigits mask = true) :
    ∃ hd, Model.Pow.header H { en1 := en1, mask := mask, job := slots.map slotJVal, submit := ps } = some hd := by
  obtain ⟨-, ⟨en2, e2, h2⟩, ⟨nt, e3, h3⟩, ⟨no, e4, h4⟩, h5⟩ := submit_rules ps hs
  simp only [notifyValid, C05.notifyWordSlots, List.all_cons, List.all_nil, Bool.and_true, Bool.and_eq_true,
    and_assoc] at hn
  obtain ⟨_, hprev, hcb, hver, hnb, _, hbr, _⟩ := hn
  obtain ⟨prev, e1, hprev⟩ := of_guard hprev
  obtain ⟨ver, e5, hver⟩ := of_guard hver
  obtain ⟨nb, e6, hnb⟩ := of_guard hnb
  refine ⟨_, header_of_reads H _ ⟨en2, nt, no, ps[5]?⟩ e2 e3 e4 rfl (wellFormed_iff.mpr ?_)⟩
  simp only [jobOf, jobStr_slots, e1, e5, e6, Option.getD_some]
  split at hbr
  · next brs e4' =>
    rw [jobArr_slots e4']
    split at hcb
    · next g1 g2 eg1 eg2 =>
      rw [eg1, eg2]
      exact ⟨hprev, hver, hnb, h3, h4, (Bool.and_eq_true_iff.mp hcb).1, he, h2, (Bool.and_eq_true_iff.mp hcb).2, hbr,
        fun b e5' => ⟨h5 b e5', hm⟩⟩
    · cases hcb
  · cases hbr

/-- **the type assertions hold**: what passes `validExtranonce` is a string and a non-negative
integer (`GetExtranonce` asserts `.(string)` and `.(float64)`) -/
theorem extranonce_assertions_hold (xn size : JV) (h : extranonceValid xn size = true) :
    (∃ s, xn = .str s ∧ isHex s = true) ∧ (∃ v, size = .int v ∧ 0 ≤ v) := by
  unfold extranonceValid at h
  simp only [Bool.and_eq_true] at h
  constructor
  · cases xn with
    | str s => exact ⟨s, rfl, h.1⟩
    | _ => exact absurd h.1 Bool.false_ne_true
  · cases size with
    | int v => exact ⟨v, rfl, of_decide_eq_true (Bool.and_eq_true_iff.mp h.2).1⟩
    | _ => exact absurd h.2 Bool.false_ne_true

/-- a typed message leaves the (model of the) parser only if it passed its validation -/
theorem typed_ok_validated (params : JV) :
    (typed "mining.submit" params = .ok "submit" → ∃ ps, strSlice params = some ps ∧ submitValid ps = true) ∧
    (typed "mining.notify" params = .ok "notify" → ∃ l, params = .arr l ∧ notifyValid (nine l) = true) := by
  constructor
  · intro h
    simp only [typed] at h
    split at h
    · rename_i ps hp
      split at h
      · exact ⟨ps, hp, ‹_›⟩
      · cases h
    · cases h
  · intro h
    simp only [typed] at h
    split at h
    · cases h
    · cases h
    · rename_i l
      split at h
      · exact ⟨l, rfl, ‹_›⟩
      · cases h
    · cases h

theorem nine_length (l : List JV) : (nine l).length = 9 := by
  unfold nine
  simp only [List.length_append, List.length_map, List.length_replicate, List.length_take]
  omega

example : submitValid ["w.k", "job", "00000001", "64c25820", "00000002", "00004000"] = true := by decide +kernel
example : submitValid ["w.k", "job", "00000001", "64c25820", "0000002"] = false := by decide +kernel
example : submitValid ["w.k", "job", "00000001", "64c25820"] = false := by decide +kernel

end PRV.Props.C05
