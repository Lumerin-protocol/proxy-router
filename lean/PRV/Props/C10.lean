import PRV.Model.BuyerCheck
import PRV.Proofs.WorkerBook
import PRV.Gen.Wiring
import Mathlib.Tactic.Linarith
import Mathlib.Tactic.SplitIfs
import Mathlib.Algebra.Order.Field.Basic
import Mathlib.Data.Rat.Cast.Order
/-
C10 — A validator closes a contract early only for a real delivery fault.
`PRV.Gen.C10.*` is regenerated from buyer_validation.go / controller_buyer.go / contract_buyer.go /
number.go on every run, so the tolerance theorems are about the current source text.
-/
namespace PRV.Props.C10
open PRV.Gen.C10 PRV.Model.Buyer

/-! ### tolerance: 100% in the skip period, ≥ threshold, ≤ 100%, never increasing -/

def clamp (m x : Rat) : Rat := if x > 1 then 1 else if x < m then m else x

theorem tol_eq (e : Int) (m : Rat) (f s : Int) :
    getMaxGlobalError e m f s = if e ≤ s then 1 else clamp m ((f : Rat) / ((e + f - s : Int) : Rat)) := rfl

theorem tol_skip (e : Int) (m : Rat) (f s : Int) (h : e ≤ s) : getMaxGlobalError e m f s = 1 := if_pos h

theorem tol_after_skip (e : Int) (m : Rat) (f s : Int) (h : s < e) :
    getMaxGlobalError e m f s = clamp m ((f : Rat) / ((e + f - s : Int) : Rat)) := if_neg (not_le.mpr h)

theorem clamp_eq (m x : Rat) (hm : m ≤ 1) : clamp m x = max m (min x 1) := by
  unfold clamp
  split_ifs with h1 h2
  · rw [min_eq_right h1.le, max_eq_right hm]
  · rw [min_eq_left (not_lt.mp h1), max_eq_left h2.le]
  · rw [min_eq_left (not_lt.mp h1), max_eq_right (not_lt.mp h2)]

theorem tol_bounds (e : Int) (m : Rat) (f s : Int) (hm : m ≤ 1) :
    m ≤ getMaxGlobalError e m f s ∧ getMaxGlobalError e m f s ≤ 1 := by
  rw [tol_eq]; split
  · exact ⟨hm, le_rfl⟩
  · rw [clamp_eq _ _ hm]
    exact ⟨le_max_left _ _, max_le hm (min_le_right _ _)⟩

theorem tol_le_one (e : Int) (m : Rat) (f s : Int) (hm : m ≤ 1) : getMaxGlobalError e m f s ≤ 1 :=
  (tol_bounds e m f s hm).2

theorem tol_ge_min (e : Int) (m : Rat) (f s : Int) (hm : m ≤ 1) : m ≤ getMaxGlobalError e m f s :=
  (tol_bounds e m f s hm).1

theorem tol_antitone (e1 e2 : Int) (m : Rat) (f s : Int) (hm : m ≤ 1) (hf : 0 ≤ f) (h : e1 ≤ e2) :
    getMaxGlobalError e2 m f s ≤ getMaxGlobalError e1 m f s := by
  rcases le_or_gt e1 s with h1 | h1
  · rw [tol_skip e1 m f s h1]; exact tol_le_one e2 m f s hm
  · rw [tol_after_skip e1 m f s h1, tol_after_skip e2 m f s (lt_of_lt_of_le h1 h), clamp_eq _ _ hm, clamp_eq _ _ hm]
    exact max_le_max le_rfl (min_le_min (div_le_div_of_nonneg_left (Int.cast_nonneg hf) (Int.cast_pos.mpr (by omega))
      (Int.cast_le.mpr (by omega))) le_rfl)

theorem hashrateOK_iff (i : CheckIn) :
    hashrateOK i = true ↔ relativeError i.target i.actual ≤ tolerance i ∨ i.actual > i.target := by
  rw [hashrateOK, Bool.or_eq_true, decide_eq_true_iff, decide_eq_true_iff]

theorem check_fst (i : CheckIn) :
    (check i).1 =
      if started i = false then .ok
      else if (i.finishedBefore || expired i) = true then .finished
      else if silence i > i.shareTimeout then .shareTimeout
      else if hashrateOK i = false then .underdelivery
      else .ok := by
  simp only [check, apply_ite Prod.fst, Bool.not_eq_true']

/-- A non-ok verdict is given exactly when validation has started and the contract is over, or no
share arrived for longer than the share timeout, or the hashrate is below target by more than the
tolerance. -/
theorem verdict_iff (i : CheckIn) :
    (check i).1 ≠ .ok ↔
      started i = true ∧ ((i.finishedBefore || expired i) = true ∨ silence i > i.shareTimeout ∨
        (¬ relativeError i.target i.actual ≤ tolerance i ∧ ¬ i.actual > i.target)) := by
  rw [check_fst, ← not_or, ← hashrateOK_iff]
  split_ifs with hs hf ht hh
  · exact ⟨fun h => absurd rfl h, fun h => absurd (hs ▸ h.1) nofun⟩
  · exact ⟨fun _ => ⟨(Bool.not_eq_false _).mp hs, .inl hf⟩, fun _ => nofun⟩
  · exact ⟨fun _ => ⟨(Bool.not_eq_false _).mp hs, .inr (.inl ht)⟩, fun _ => nofun⟩
  · exact ⟨fun _ => ⟨(Bool.not_eq_false _).mp hs, .inr (.inr (Bool.not_eq_true _ ▸ hh))⟩, fun _ => nofun⟩
  · exact ⟨fun h => absurd rfl h,
      fun h => h.2.elim (absurd · hf) (·.elim (absurd · ht) (absurd · (Bool.not_eq_true _ ▸ hh)))⟩

/-- the reason named by the verdict matches the cause -/
theorem verdict_cause (i : CheckIn) :
    ((check i).1 = .shareTimeout → silence i > i.shareTimeout) ∧
    ((check i).1 = .underdelivery →
        i.actual ≤ i.target ∧ ¬ relativeError i.target i.actual ≤ tolerance i ∧
        ¬ silence i > i.shareTimeout) ∧
    ((check i).1 = .finished → (i.finishedBefore || expired i) = true) := by
  rw [check_fst]
  split_ifs with hs hf ht hh
  · exact ⟨nofun, nofun, nofun⟩
  · exact ⟨nofun, nofun, fun _ => hf⟩
  · exact ⟨fun _ => ht, nofun, nofun⟩
  · have hh' := (hashrateOK_iff i).not.mp (Bool.not_eq_true _ ▸ hh)
    exact ⟨nofun, fun _ => ⟨not_lt.mp fun h => hh' (.inr h), fun h => hh' (.inl h), ht⟩, nofun⟩
  · exact ⟨nofun, nofun, nofun⟩

/-- over-delivery never counts as under-delivery -/
theorem overdelivery_ok (i : CheckIn) (h : i.actual > i.target) : (check i).1 ≠ .underdelivery :=
  fun hc => ((verdict_cause i).2.1 hc).1.not_gt h

/-- nothing is reported before validation starts (start-up grace) -/
theorem grace_ok (i : CheckIn) (h : i.now ≤ i.validatorStart) : (check i).1 = .ok := by
  rw [check_fst, started, if_pos (decide_eq_false (not_lt.mpr h))]

/-- inside the skip period a contract delivering anything between 0 and its target is never
reported as under-delivering -/
theorem skip_period_no_underdelivery (i : CheckIn) (hskip : i.now - i.fulfilStart ≤ skipPeriod)
    (ht : 0 < i.target) (ha : 0 ≤ i.actual) : (check i).1 ≠ .underdelivery := by
  intro hc
  obtain ⟨hle, hrel, _⟩ := (verdict_cause i).2.1 hc
  apply hrel
  rw [tolerance, tol_skip _ _ _ _ hskip, relativeError, PRV.Gen.C10.abs, PRV.Gen.C10.abs, if_neg ht.not_gt, div_le_one ht]
  split <;> linarith

/-- a contract that reached its end is reported as finished, never as a delivery fault -/
theorem end_is_not_a_fault (i : CheckIn) (h : expired i = true) :
    (check i).1 = .ok ∨ (check i).1 = .finished := by
  rw [check_fst, h, Bool.or_true]
  split
  · exact .inl rfl
  · exact .inr (if_pos rfl)

theorem reason_dest : reasonFor (· = "ErrContractDest") = closeReasonDestinationUnavailable := by decide +kernel
theorem reason_share_timeout : reasonFor (· = "ErrShareTimeout") = closeReasonShareTimeout := by decide +kernel
theorem reason_underdelivery : reasonFor (· = "ErrUnderdelivery") = closeReasonUnderdelivery := by decide +kernel
theorem reason_other : reasonFor (fun _ => false) = closeReasonUnspecified := by decide
theorem reasons_distinct :
    [closeReasonUnspecified, closeReasonUnderdelivery, closeReasonDestinationUnavailable,
      closeReasonShareTimeout].Nodup := by decide

theorem closeLoop_failed (reason : Nat) (k : Nat) (rest : List (Bool × Bool)) :
    closeLoop reason (List.replicate k (false, false) ++ rest) =
      (List.replicate k [Action.closeEarly reason, Action.sleep retryDelay]).flatten ++ closeLoop reason rest := by
  induction k with
  | zero => rfl
  | succ k ih =>
    rw [List.replicate_succ, List.cons_append, closeLoop, ih]
    rfl

/-- `k` failing close transactions followed by a successful one: exactly `k+1` transactions, all
with the same reason, `retryDelay` apart, and then nothing more. -/
theorem retry_until_success (reason : Nat) (k : Nat) :
    closeLoop reason (List.replicate k (false, false) ++ [(false, true)]) =
      (List.replicate k [Action.closeEarly reason, Action.sleep retryDelay]).flatten ++
        [Action.closeEarly reason] :=
  closeLoop_failed reason k _

/-- while every transaction fails the controller keeps trying (no give-up) -/
theorem retry_never_gives_up (reason : Nat) (k : Nat) :
    (closeLoop reason (List.replicate k (false, false))).count (Action.closeEarly reason) = k := by
  rw [← List.append_nil (List.replicate k _), closeLoop_failed]
  simp [closeLoop, List.count_flatten]

/-- a contract already closed by someone else (closed event processed first) is not closed again -/
theorem closed_first_no_tx (err : Option ErrKind) (txOk : Bool) (rest : List (Bool × Bool)) :
    onWatcherDone err ((true, txOk) :: rest) = [] := by
  unfold onWatcherDone
  cases err with
  | none => rfl
  | some e => by_cases h : e.isClosed = true <;> simp [h, closeLoop]

/-- a watcher that ended normally or was cancelled by a closed event sends nothing -/
theorem normal_end_no_tx (rounds : List (Bool × Bool)) :
    onWatcherDone none rounds = [] ∧
    onWatcherDone (some { isClosed := true }) rounds = [] := by
  constructor <;> simp [onWatcherDone]

/-- **a contract closed by somebody else while the controller is retrying is not closed again**: after k failed
transactions, the pass through the loop that finds the contract available sends nothing and ends the loop,
whatever would have come next -/
theorem closed_meanwhile_stops (reason : Nat) (k : Nat) (txOk : Bool) (rest : List (Bool × Bool)) :
    closeLoop reason (List.replicate k (false, false) ++ (true, txOk) :: rest) =
      (List.replicate k [Action.closeEarly reason, Action.sleep retryDelay]).flatten :=
  (closeLoop_failed reason k _).trans (List.append_nil _)

/-- the number of transactions is the number of passes up to and including the first success or up to the pass that
finds the contract closed: never more -/
theorem tx_count_le_rounds (reason : Nat) (rounds : List (Bool × Bool)) :
    ((closeLoop reason rounds).filter fun a => match a with | .closeEarly _ => true | _ => false).length ≤ rounds.length := by
  fun_induction closeLoop reason rounds with
  | case1 => exact Nat.le_refl 0
  | case2 => exact Nat.zero_le _
  | case3 avail txOk rest _ ih =>
    -- the transaction of this pass is counted against this pass
    refine Nat.succ_le_succ ?_
    split
    · exact Nat.zero_le _
    · exact ih

/-! ### the share record a purchase reads its "last share" from (`GlobalHashrate`) -/

section book
open PRV.Model.WorkerBook PRV.Proofs.WorkerBook

/-- at the start of a purchase the watcher deletes the record of its contract and creates a fresh one — in that order, and
nowhere else -/
theorem source_record_prepared : PRV.Gen.C10.watcherStartCalls = ["Reset", "Initialize"] ∧
    PRV.Gen.C10.recordWriters = ["run:Reset", "run:Initialize"] := ⟨rfl, rfl⟩

/-- **a purchase starts from a clean record, whatever happened to it before** (shares of an earlier purchase, late shares
after that purchase's watcher had gone, other contracts): no last share, no work -/
theorem fresh_purchase_starts_clean (b : Book) (id : String) :
    load (startPurchase b id) id = some {} ∧ lastSubmit (startPurchase b id) id = none ∧
    totalWork (startPurchase b id) id = some 0 := by
  have h1 : load (startPurchase b id) id = some {} := by
    unfold startPurchase; rw [load_initRec, load_reset]; simp
  exact ⟨h1, by simp [lastSubmit, h1], by simp [totalWork, h1]⟩

theorem lastSubmit_onSubmit (b : Book) (id : String) (diff now : Int) (hnow : now ≠ 0) :
    lastSubmit (onSubmit b id diff now) id = some now := by
  unfold lastSubmit; rw [load_onSubmit]; simp [hnow]

/-- **the instant the silence is measured from is the start of this purchase or one of its own shares**: for every record
left behind by earlier history and every sequence of shares of this purchase, it is the last of them, or the start when
there was none — a share-timeout verdict therefore needs a silence longer than the timeout *within the purchase* -/
theorem purchase_reference (b : Book) (id : String) (startedAt : Int) (shares : List (Int × Int))
    (hpos : ∀ s ∈ shares, s.2 ≠ 0) :
    reference (submits (startPurchase b id) id shares) id startedAt = ((shares.getLast?).map (·.2)).getD startedAt := by
  suffices ∀ (b0 : Book) (d : Int), reference b0 id startedAt = d →
      reference (submits b0 id shares) id startedAt = ((shares.getLast?).map (·.2)).getD d from
    this _ _ (by simp [reference, (fresh_purchase_starts_clean b id).2.1])
  induction shares with
  | nil => intro b0 d h; simpa [submits] using h
  | cons s rest ih =>
    intro b0 d _
    have h1 : reference (onSubmit b0 id s.1 s.2) id startedAt = s.2 := by
      simp [reference, lastSubmit_onSubmit b0 id s.1 s.2 (hpos s List.mem_cons_self)]
    rw [submits, ih (fun x hx => hpos x (List.mem_cons_of_mem _ hx)) _ _ h1, List.getLast?_cons]
    cases rest.getLast? <;> rfl

/-- one more connection under the same worker name (a rig reconnecting, a second rig of the worker, another seller miner pointed
at the contract) leaves what was measured untouched: the last share and the work credited so far are still reported -/
theorem connect_keeps_the_record (b : Book) (w v : String) : load (onConnect b w) v = load b v ∨ (load b v = none ∧ v = w) := by
  unfold onConnect
  rw [load_initRec]
  cases load b v with
  | some x => exact .inl rfl
  | none =>
    by_cases hw : w = v
    · exact .inr ⟨rfl, hw.symm⟩
    · exact .inl (by simp [hw])

/-- without the `Reset` a record left behind survives `Initialize` (it is a `LoadOrStore`): a share that arrived after the
previous purchase's watcher had gone would date the new purchase's silence -/
theorem stale_record_survives_without_reset :
    ∃ b : Book, lastSubmit (initRec b "c") "c" = some 5 ∧ lastSubmit (startPurchase b "c") "c" = none :=
  ⟨[("c", { last := 5, work := 1, shares := 1 })], by decide, by decide⟩

/-- other contracts' records are not touched by the start of a purchase -/
theorem other_records_untouched (b : Book) (id w : String) (h : w ≠ id) : load (startPurchase b id) w = load b w := by
  unfold startPurchase
  rw [load_initRec, load_reset, if_neg (Ne.symm h), if_neg (Ne.symm h), Option.or_none]

-- non-vacuity: a record with history, a purchase with two shares
example : reference (submits (startPurchase [("c", { last := 5, work := 9, shares := 2 })] "c") "c" [(1, 100), (1, 130)]) "c" 90 = 130 := by decide

end book

/-! ### the start-up grace period's default (regenerated from `Config.SetDefaults`) -/

/-- left unset, the grace period is one and a half delivery cycles *of the configured length* -/
theorem source_grace_default : PRV.Gen.Wiring.graceDefault =
    ("cfg.Hashrate.ValidationTimeoutAppStart == 0", "time.Duration(1.5 * float64(cfg.Hashrate.CycleDuration))") := rfl

/-- which covers a whole cycle for every cycle length (in ns, truncation included): a seller that reconnects at its next
cycle after a validator restart is inside the grace period -/
theorem grace_default_covers_cycle (cycle : Int) (h : 0 ≤ cycle) : cycle ≤ (3 * cycle) / 2 := by omega

/-- the destination-failure signal always ends the validation with `ErrContractDest`, whatever the stored description of the
failure has become meanwhile (the controller clears it after every event it handles): the signal is the closed channel -/
theorem source_dest_failure_always_ends_validation : PRV.Gen.C10.destFailureBranch =
    ["err := p.contractErr.Load()", "p.contractErrCh = make(chan struct{})", "return lib.WrapError(ErrContractDest, err)"] := rfl

/-! ### non-vacuity -/
example : getMaxGlobalError (10 * 60000000000) (5 / 100) (20 * 60000000000) skipPeriod = 4 / 5 := by decide +kernel
def exampleIn : CheckIn where
  now := 100
  validatorStart := 10
  endTime := some 1000
  finishedBefore := false
  lastShare := some 90
  fulfilStart := 0
  shareTimeout := 50
  target := 100
  actual := 10
  threshold := 5 / 100
  flatness := 0

example : (check exampleIn).1 = .ok := by decide +kernel

end PRV.Props.C10
