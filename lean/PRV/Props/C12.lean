import PRV.Proofs.C12
/-
C12 — Start/stop of a background task is linearizable.
Theorems about every reachable state of the transition system `Model/Task.lean` (any number of
concurrent Start/Stop calls, any interleaving of the atomic steps, any number of restarts).
-/
namespace PRV.Props.C12
open PRV.Model.Task PRV.Proofs.C12

/-- no interleaving panics (double close) or runs the function twice concurrently -/
theorem no_panic_no_overlap {s : St} (h : Reachable s) :
    s.doubleClose = false ∧ s.twoHolders = false ∧ s.active ≤ 1 := by
  have hi := (inv_reachable h).groups
  exact ⟨hi.noPanic, hi.single, hi.active ▸ b2n_le _⟩

/-- completion is signalled only when the function returned on its own or the parent context ended -/
theorem done_only_if {s : St} (h : Reachable s) :
    (s.isDone = true → s.parent = true ∨ s.ownReturned = true) ∧ (s.doneClosed = true → s.isDone = true) := by
  have hi := (inv_reachable h).groups.done
  exact ⟨fun hd => (hi.ofDone hd).2.2.2, fun hd => (hi.ofClosed hd).1⟩

/-- ... and a return caused by Stop (context error, parent alive, this generation cancelled) takes the
stop path: completion is not signalled -/
theorem stop_does_not_complete (s : St) (g : Nat) (hgo : s.go = some (g, .returned false))
    (hp : s.parent = false) (hc : g ∈ s.cancelled) :
    exec s .goDecide = some { s with go := some (g, .sReset) } := by
  simp [exec, hgo, hp, hc]

/-- a function that returns on its own, or whose parent ended, takes the done path -/
theorem own_or_parent_completes (s : St) (g : Nat) (own : Bool) (hgo : s.go = some (g, .returned own))
    (h : s.parent = true ∨ own = true) :
    exec s .goDecide = some { s with go := some (g, .dSetDone) } := by
  rcases h with h | h <;> simp [exec, hgo, h]

/-- **After waiting for a stop to complete the function is no longer running.**  Once the stop
channel of generation `g` is closed, the goroutine of `g` is gone, and any goroutine or pending
spawn that exists belongs to a strictly later generation (started after). Together with
`run_is_latest` (the generation Stop loads is the newest one), no invocation begun before the
Stop call is still active. -/
theorem stop_wait {s : St} (h : Reachable s) (g : Nat) (hg : g ∈ s.stopClosed) :
    (∀ g' pc, s.go = some (g', pc) → g < g') ∧ (∀ g', s.spawnPending = some g' → g < g') := by
  obtain ⟨_, b, c⟩ := (inv_reachable h).groups.gen.ofReleased g (.inl hg)
  exact ⟨fun g' pc hgo => b g' (by rw [hgo]; rfl), c⟩

theorem run_is_latest {s : St} (h : Reachable s) (g : Nat) (pc : GoPc) (hgo : s.go = some (g, pc)) :
    s.run = some g :=
  ((inv_reachable h).groups.gen.ofLive g (.inl (by rw [hgo]; rfl))).2

/-- the running flag is set exactly when somebody is responsible for it: a Start call past its
compare-and-swap, the goroutine that has not yet reset the flag, or a finished (done) task -/
theorem flag_has_holder {s : St} (h : Reachable s) : s.isRunning = true ↔ holders s = 1 :=
  (inv_reachable h).2.1

/-- a goroutine whose stop channel is closed, or about to be closed, no longer holds the flag -/
theorem stopped_goroutine_released {s : St} (h : Reachable s) (g : Nat) (hg : g ∈ s.stopClosed ∨ g ∈ s.tails) :
    ∀ pc, s.go ≠ some (g, pc) := by
  intro pc hgo
  exact Nat.lt_irrefl g (((inv_reachable h).groups.gen.ofReleased g hg).2.1 g (by rw [hgo]; rfl))

/-- **A subsequent start always runs the function again.**  In a reachable state where the task is
not done and nobody else holds the flag (in particular after the wait on Stop() returned with no
other caller active), a Start call runs through and the function is invoked once more. -/
theorem start_runs_again {s : St} (h : Reachable s) (hc : 0 < s.nCas) (hd : s.isDone = false)
    (hnl : s.nLoadDone = 0) (hns : s.nStoreRun = 0) (hsp : s.spawnPending = none) (hgo : s.go = none) :
    ∃ s', runLabels s [.startCas, .startLoadDone, .startStoreRun, .startSpawn, .goBegin] = some s' ∧
      s'.invocations = s.invocations + 1 ∧ s'.active = 1 := by
  have hi := (inv_reachable h).groups
  have hdl : s.doneLocked = false :=
    Bool.eq_false_iff.mpr fun hx => Bool.noConfusion (hd.symm.trans (hi.done.ofLocked hx))
  have hrun : s.isRunning = false := by
    have hf := hi.flag
    rw [hnl, hns, hsp, hgo, hdl] at hf
    cases hr : s.isRunning with
    | false => rfl
    | true => rw [hr] at hf; cases hf
  have hact : s.active = 0 := by rw [hi.active, hgo]; rfl
  simp [runLabels, exec, Nat.ne_of_gt hc, hrun, hd, hnl, hns, hsp, hgo, hact]

/-- how far generation `g` is from having its stop channel closed -/
def rank (s : St) (g : Nat) : Nat :=
  if g ∈ s.stopClosed then 0
  else if g ∈ s.tails then 1
  else match s.go with
    | some (g', pc) =>
      if g' = g then
        match pc with
        | .begin => 8 | .running => 7 | .returned _ => 6 | .dSetDone => 4 | .dCloseDone => 3
        | .sReset => 2 | .dReset => 2
      else 10
    | none => if s.spawnPending = some g then 9 else 10

/-- Whoever is responsible for closing the stop channel of a published, cancelled generation can
always take a step that brings the closing nearer (the function honours its context).  Hence a
caller waiting on the channel returned by Stop() is never blocked forever: at most 9 steps of
that generation's own threads remain. -/
theorem progress_step {s : St} (hi : Proofs.C12.Inv s) (g : Nat) (hpub : g < s.nextGen) (hc : g ∈ s.cancelled)
    (hopen : g ∉ s.stopClosed) :
    ∃ l s', exec s l = some s' ∧ rank s' g < rank s g ∧ g ∈ s'.cancelled ∧ g < s'.nextGen := by
  by_cases ht : g ∈ s.tails
  · refine ⟨.goCloseStop g, _, if_pos (List.contains_iff_mem.mpr ht), ?_⟩
    exact ⟨by simp [rank, hopen, ht], hc, hpub⟩
  · rcases hi.groups.gen.ofPublished g hpub with a | a | a | a
    · exact absurd a hopen
    · exact absurd a ht
    · -- the goroutine of g exists
      obtain ⟨⟨g', pc⟩, hgo, (rfl : g' = g)⟩ := Option.map_eq_some_iff.mp a
      cases pc with
      | begin =>
        refine ⟨.goBegin, _, by simp only [exec, hgo]; rfl, ?_⟩
        exact ⟨by simp [rank, hopen, ht, hgo], hc, hpub⟩
      | running =>
        refine ⟨.goReturnCtx, _, by simp only [exec, hgo, List.contains_iff_mem.mpr hc]; rfl, ?_⟩
        exact ⟨by simp [rank, hopen, ht, hgo], hc, hpub⟩
      | returned own =>
        by_cases hcond : (!s.parent && s.cancelled.contains g' && !own) = true
        · refine ⟨.goDecide, _, by simp only [exec, hgo, hcond, if_true]; rfl, ?_⟩
          exact ⟨by simp [rank, hopen, ht, hgo], hc, hpub⟩
        · refine ⟨.goDecide, _, by simp only [exec, hgo, hcond]; rfl, ?_⟩
          exact ⟨by simp [rank, hopen, ht, hgo], hc, hpub⟩
      | sReset | dReset =>
        refine ⟨.goReset, _, by simp only [exec, hgo]; rfl, ?_⟩
        exact ⟨by simp [rank, hopen, ht, hgo], hc, hpub⟩
      | dSetDone =>
        refine ⟨.goSetDone, _, by simp only [exec, hgo]; rfl, ?_⟩
        exact ⟨by simp [rank, hopen, ht, hgo], hc, hpub⟩
      | dCloseDone =>
        refine ⟨.goCloseDone, _, by simp only [exec, hgo, hi.not_closed hgo]; rfl, ?_⟩
        exact ⟨by simp [rank, hopen, ht, hgo], hc, hpub⟩
    · -- published but not yet spawned: the Start call can spawn it (nobody else holds the flag)
      have hgo : s.go = none := (alone hi.1).2.1 g a
      refine ⟨.startSpawn, _, by simp only [exec, a, hgo]; rfl, ?_⟩
      exact ⟨by simp [rank, hopen, ht, hgo, a], hc, hpub⟩

/-! ### non-vacuity: a concrete interleaving (Start; Stop; the goroutine winds down; Start again) -/
example : (runLabels {} [.startBegin, .startCas, .startLoadDone, .startStoreRun, .startSpawn, .goBegin,
      .stopBegin, .stopLoadRun, .stopCancel 0, .goReturnCtx, .goDecide, .goReset, .goCloseStop 0,
      .startBegin, .startCas, .startLoadDone, .startStoreRun, .startSpawn, .goBegin]).map
      (fun s => (s.invocations, s.active, s.stopClosed, s.isRunning, s.isDone)) =
    some (2, 1, [0], true, false) := by decide

end PRV.Props.C12
