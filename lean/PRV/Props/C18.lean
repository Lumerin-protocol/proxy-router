import PRV.Model.Secrets
import PRV.Model.BuyerDest
import PRV.Gen.BuyerDest
/-
C18 — Secrets stay secret; encrypted destinations fail closed.
`Gen.C18` is regenerated from config.go, cmd/main.go and httphandlers/http.go on every run.
-/
namespace PRV.Props.C18
open PRV.Model.Secrets PRV.Gen.C18

theorem evalRev_congr (c1 c2 : Cfg) (stmts : List (String × String))
    (h : ∀ a ∈ stmts, a.2 ≠ "" → c1 a.2 = c2 a.2) : evalRev c1 stmts = evalRev c2 stmts := by
  induction stmts with
  | nil => rfl
  | cons a older ih =>
    funext p
    have ha : valueOf c1 a = valueOf c2 a := by
      unfold valueOf
      split
      · rfl
      · exact h a List.mem_cons_self ‹_›
    simp only [evalRev, ha, ih fun b hb => h b (List.mem_cons_of_mem _ hb)]

theorem evalRev_untouched (c : Cfg) (stmts : List (String × String)) (p : String)
    (h : ∀ a ∈ stmts, a.1 ≠ p) : evalRev c stmts p = "" := by
  induction stmts with
  | nil => rfl
  | cons a older ih =>
    simp only [evalRev, if_neg (h a List.mem_cons_self), ih fun b hb => h b (List.mem_cons_of_mem _ hb)]

/-- the one sweep over the regenerated statements: none of them mentions a secret, as target or as source -/
theorem stmts_avoid_secrets : ∀ a ∈ sanitizeStmts, a.1 ∉ secrets ∧ a.2 ∉ secrets := by decide +kernel

/-- every assignment of `GetSanitized` writes a declared field of `Config` (so the field table is the whole output) -/
theorem stmts_target_fields : stmtsTargetFields = true := by decide +kernel

/-- no final source is a secret -/
theorem no_field_from_secret : noSecretSource = true :=
  List.all_eq_true.mpr fun p _ => by
    cases hf : finalStmt p with
    | none => rfl
    | some a => simpa using (stmts_avoid_secrets a (List.mem_reverse.mp (List.mem_of_find?_eq_some hf))).2

/-- **Non-interference.** Two configurations that differ only in the wallet key, the mnemonic and
the Ethereum node URL have the same sanitized form: whatever is exposed over HTTP or printed at
start-up is independent of the secrets. -/
theorem sanitize_noninterference (c1 c2 : Cfg) (h : ∀ p, p ∉ secrets → c1 p = c2 p) :
    sanitize c1 = sanitize c2 :=
  evalRev_congr c1 c2 _ fun a ha _ => h _ (stmts_avoid_secrets a (List.mem_reverse.mp ha)).2

/-- the secrets themselves come out empty -/
theorem secrets_blank (c : Cfg) : ∀ p ∈ secrets, sanitize c p = "" := fun p hp =>
  evalRev_untouched c _ p fun a ha e => (stmts_avoid_secrets a (List.mem_reverse.mp ha)).1 (e ▸ hp)

/-- the whole configuration value leaves `main` only towards the loader and, behind the
`Sanitizable` interface whose only method is `GetSanitized`, the HTTP handler; everything printed
goes through `GetSanitized` -/
theorem whole_config_only_to :
    (∀ f ∈ wholeConfigReceivers, f ∈ ["config.LoadConfig", "httphandlers.NewHTTPHandler"]) ∧
    httpConfigMethods = ["GetSanitized"] ∧ httpConfigFieldType = "Sanitizable" :=
  ⟨by decide +kernel, rfl, rfl⟩

/-- A destination is returned only if decryption and URL parsing both succeeded, and then it is
exactly the parsed plaintext; whenever an error is reported no destination is returned. -/
theorem decrypt_fail_closed {Url : Type} (enc : String) (dec : String → Option String)
    (parse : String → Option Url) (u : Url) :
    ((decryptDest enc dec parse).1 = some u ↔ (enc ≠ "" ∧ ∃ plain, dec enc = some plain ∧ parse plain = some u)) ∧
    ((decryptDest enc dec parse).2 ≠ none → (decryptDest enc dec parse).1 = none) := by
  fun_cases decryptDest enc dec parse <;> simp [*]

/-- with a primitive that inverts encryption, the round trip yields the identical URL -/
theorem decrypt_roundtrip {Url : Type} (encf : String → String) (dec : String → Option String)
    (parse : String → Option Url) (plain : String) (u : Url)
    (hinv : dec (encf plain) = some plain) (hne : encf plain ≠ "") (hp : parse plain = some u) :
    decryptDest (encf plain) dec parse = (some u, none) := by
  unfold decryptDest; simp [hne, hinv, hp]

/-- a ciphertext the primitive rejects (corrupted, truncated, foreign key) yields an error and no
destination -/
theorem decrypt_rejected {Url : Type} (enc : String) (dec : String → Option String)
    (parse : String → Option Url) (hne : enc ≠ "") (hrej : dec enc = none) :
    decryptDest enc dec parse = (none, some .cannotDecrypt) := by
  unfold decryptDest; simp [hne, hrej]

example : finalStmt "Pool.Address" = some ("Pool.Address", "Pool.Address") := by decide +kernel
example : finalStmt "Marketplace.Mnemonic" = none := by decide +kernel

/-! ### the encrypted pool destination of a contract held as buyer or validator: fail closed (regenerated + model) -/

section buyerDest
open PRV.Model.BuyerDest

/-- a refused read of the destination fails the whole read (it is not taken for "no destination"); the factory decrypts whenever a
destination is given — for buyers and validators alike —, records a decryption or parse error on the contract and still returns
the contract (it stays watched) -/
theorem source_buyer_destination_handling :
    PRV.Gen.BuyerDest.afterEncrDestRead = ["if err != nil { return nil, err }", "if destUrl != \"\" { encryptedDestURL = destUrl }"] ∧
    PRV.Gen.BuyerDest.decryptGuard = "contractData.DestEncrypted != \"\"" ∧
    PRV.Gen.BuyerDest.onDecryptError = "watcher.contractErr.Store(destErr)" ∧
    PRV.Gen.BuyerDest.buyerReturn = "return NewControllerBuyer(watcher, c.store, c.privateKey, false), nil" :=
  ⟨rfl, rfl, rfl, rfl⟩

/-- **fail closed**: whenever the chain entry carries a destination, a contract that is picked up either sends the hashrate to
exactly that destination or carries an error — it is never silently served with the node's default pool -/
theorem encrypted_destination_fails_closed (r : Role) (p : Payload) (refused : Bool) (c : Contract) (default : String)
    (hp : p ≠ .none) (h : pickedUp r p refused = some c) :
    c.err = true ∨ (∃ host, p = .ok host ∧ poolDest c default = host) := by
  unfold pickedUp readDest at h
  cases refused <;> simp at h
  subst h
  cases p <;> simp_all [create, poolDest]

/-- a destination that decrypts is used as it is, for a buyer as for a validator (contract routing, C15) -/
theorem decryptable_destination_is_used (r : Role) (host default : String) :
    pickedUp r (.ok host) false = some { dest := some host, err := false } ∧
    poolDest (create r (.ok host)) default = host := by
  cases r <;> simp [pickedUp, readDest, create, poolDest]

/-- a purchase is picked up whatever its destination turns out to be (C16): only a refused call keeps the manager from it, and
then the manager ends and is restarted (`run_returns_on_every_exit`) -/
theorem picked_up_whatever_the_destination (r : Role) (p : Payload) : (pickedUp r p false).isSome = true := by
  simp [pickedUp, readDest]

/-- the default pool is used only when no destination was given -/
theorem default_pool_only_without_destination (r : Role) (p : Payload) (default : String)
    (h : poolDest (create r p) default = default) (herr : (create r p).err = false) (hd : ∀ host, p = .ok host → host ≠ default) :
    p = .none := by
  cases p <;> simp_all [create, poolDest]

example : pickedUp .buyer .undecryptable false = some { dest := none, err := true } := by decide

end buyerDest

end PRV.Props.C18
