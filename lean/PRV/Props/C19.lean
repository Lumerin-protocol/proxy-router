import PRV.Proofs.C19
import PRV.Gen.C19
/-
C19 — Job memory: recent jobs honoured, expired ones not, repeats detected.
`Gen.C19.jobCacheSize` is regenerated from `validator.go` on every run.
-/
namespace PRV.Props.C19
open PRV.Model PRV.Spec.C19 PRV.Proofs.C19

/-- operations of a connection's validator -/
inductive Op where
  | notify (id : String) (clean : Bool) (now : Int)
  | submit (id : String) (share : List Nat) (now : Int)
  | hasJob (id : String)
  | latest
deriving Repr

inductive Out where
  | unit | verdict (v : Verdict) | bool (b : Bool) | latest (serial : Option Nat)
deriving Repr, DecidableEq

def modelStep (v : Validator) : Op → Validator × Out
  | .notify id c t => (v.addNewJob id c t, .unit)
  | .submit id sh t => let r := v.validateAndAddShare id sh t; (r.1, .verdict r.2)
  | .hasJob id => (v, .bool (v.hasJob id))
  | .latest => (v, .latest v.getLatestJob)

def specStep (s : State) : Op → State × Out
  | .notify id c t => (notify s id c t, .unit)
  | .submit id sh t => let r := submit s id sh t; (r.1, .verdict r.2)
  | .hasJob id => (s, .bool (findLatest id (lastN s.window s.log)).isSome)
  | .latest => (s, .latest (latest s))

def runModel (v : Validator) : List Op → List Out
  | [] => []
  | op :: ops => (modelStep v op).2 :: runModel (modelStep v op).1 ops

def runSpec (s : State) : List Op → List Out
  | [] => []
  | op :: ops => (specStep s op).2 :: runSpec (specStep s op).1 ops

/-- every operation rewrites the log entry by entry and appends at most one announcement; only a
clean notify touches an expiry instant, and only one that is not yet set -/
theorem specStep_log (s : State) (op : Op) :
    ∃ f tl, (specStep s op).1 = { s with log := s.log.map f ++ tl } ∧
      ∀ a, (f a).exp = a.exp ∨ a.exp = none ∧ ∃ id t, op = .notify id true t := by
  have same : ∃ f tl, s = { s with log := s.log.map f ++ tl } ∧
      ∀ a, (f a).exp = a.exp ∨ a.exp = none ∧ ∃ id t, op = .notify id true t :=
    ⟨id, [], by simp, fun _ => .inl rfl⟩
  cases op with
  | notify j c t =>
    cases c with
    | false => exact ⟨id, [_], by simp only [List.map_id]; rfl, fun _ => .inl rfl⟩
    | true =>
      refine ⟨stamp (t + s.timeout), [_], rfl, fun a => ?_⟩
      cases h : a.exp with
      | none => exact .inr ⟨rfl, j, t, rfl⟩
      | some e => exact .inl (by simp only [stamp, h])
  | submit id sh t =>
    simp only [specStep]
    fun_cases submit s id sh t
    · exact same
    · exact same
    · exact same
    · exact ⟨addShare id _ sh, [], by rw [List.append_nil], fun a => .inl (by unfold addShare; split <;> rfl)⟩
  | hasJob id => exact same
  | latest => exact same

theorem step_refines {v : Validator} {s : State} (hw : 0 < s.window) (h : R v s) (op : Op) :
    R (modelStep v op).1 (specStep s op).1 ∧ (modelStep v op).2 = (specStep s op).2 := by
  have hc : 0 < v.jobs.cap := h.window ▸ hw
  cases op with
  | notify id c t => exact ⟨R_notify hc h id c t, rfl⟩
  | submit id sh t => exact (R_submit h id sh t).imp_right (congrArg Out.verdict)
  | hasJob id => exact ⟨h, congrArg (fun o : Option Ann => Out.bool o.isSome) (R_get h id)⟩
  | latest => exact ⟨h, congrArg Out.latest (getLatest_eq hc h)⟩

/-- **Refinement.** For every timeout and every operation sequence (any length, any ids, any
times), the bounded job cache of the validator behaves exactly like the unbounded announcement
log of the specification: same verdicts, same `HasJob`, same "latest job". -/
theorem c19_validator_refines_spec (timeout : Int) (ops : List Op) :
    runModel (Validator.new PRV.Gen.C19.jobCacheSize timeout) ops =
    runSpec { window := 30, timeout := timeout } ops := by
  have key : ∀ (ops : List Op) (v : Validator) (s : State), 0 < s.window → R v s →
      runModel v ops = runSpec s ops := by
    intro ops
    induction ops with
    | nil => intros; rfl
    | cons op ops ih =>
      intro v s hw h
      obtain ⟨h1, h2⟩ := step_refines hw h op
      obtain ⟨f, tl, e, _⟩ := specStep_log s op
      simp only [runModel, runSpec, h2, ih _ _ (e ▸ hw) h1]
  -- `R_init 30` fits only because the regenerated `jobCacheSize` is 30: a changed constant breaks this line
  exact key ops _ _ (show 0 < 30 by decide) (R_init 30 timeout)

/-- **Bounded stack map, stand-alone.** After any push history `h` into a map of capacity
`cap > 0`, `Get k` returns the value of the latest push of `k` among the last `cap` pushes, and
nothing for keys not pushed among them. -/
theorem bsm_recent {α : Type} (cap : Nat) (hc : 0 < cap) (h : List (String × α)) (k : String) :
    ((h.foldl (fun b p => b.push p.1 p.2) (BSM.empty cap)).get k) = lookupLast k (lastN cap h) :=
  (foldl_inv cap hc h).1.data k

/-- never more than `cap` entries, and `Push` never hits its index panic -/
theorem bsm_bounded {α : Type} (cap : Nat) (hc : 0 < cap) (h : List (String × α)) :
    let b := h.foldl (fun b p => b.push p.1 p.2) (BSM.empty cap)
    b.count ≤ cap ∧ b.keys.length = b.count ∧ ¬ b.pushPanics := by
  intro b
  obtain ⟨hi, hcap⟩ := foldl_inv cap hc h
  have hk : b.keys.length = b.cc := by rw [hi.keys, hi.cc, List.length_map]
  refine ⟨Nat.le_trans (Nat.le_of_eq hi.cc) (lastN_length_le cap h), hk, fun ⟨h1, h2⟩ => ?_⟩
  rw [h2] at hk
  rw [← hk, hcap] at h1
  exact absurd h1 (Nat.ne_of_lt hc)

/-! ### What the specification says, clause by clause -/

/-- "A share naming any of the 30 most recently announced jobs that has not expired is checked
against exactly that job's data": if announcement `a` is among the last `window` announcements,
no later announcement reuses its id, it is not expired and the share is new for it, the verdict is
"checked against `a`". -/
theorem recent_unexpired_checked (s : State) (pre post : List Ann) (a : Ann) (sh : List Nat)
    (now : Int) (hw : lastN s.window s.log = pre ++ a :: post)
    (hpost : ∀ b ∈ post, b.id ≠ a.id) (hexp : expired a now = false)
    (hnew : a.shares.contains sh = false) :
    (submit s a.id sh now).2 = .checked a.serial := by
  rw [submit_verdict, hw, findLatest_mid pre post a hpost]
  simpa [hexp] using hnew

/-- a job id that none of the last `window` announcements carries is not honoured -/
theorem not_recent_notFound (s : State) (id : String) (sh : List Nat) (now : Int)
    (h : ∀ b ∈ lastN s.window s.log, b.id ≠ id) : (submit s id sh now).2 = .notFound := by
  rw [submit_verdict, findLatest_none_of_forall _ _ h]

/-- an expired job is refused, an unexpired one is never refused as unknown -/
theorem expired_refused (s : State) (id : String) (sh : List Nat) (now : Int) (a : Ann)
    (hf : findLatest id (lastN s.window s.log) = some a) :
    ((submit s id sh now).2 = .notFound ↔ expired a now = true) := by
  rw [submit_verdict, hf]
  by_cases he : expired a now = true
  · simp [he]
  · by_cases hd : sh ∈ a.shares <;> simp [he, hd]

/-- expiry is strict: honoured at `t ≤ e`, refused at `t > e` -/
theorem expired_iff (a : Ann) (e now : Int) (h : a.exp = some e) : expired a now = true ↔ e < now := by
  simp [expired, h]

theorem never_stamped_never_expires (a : Ann) (now : Int) (h : a.exp = none) :
    expired a now = false := by simp [expired, h]

/-- expiry instant of the announcement with serial `i` -/
def expAt (s : State) (i : Nat) : Option Int := (s.log[i]?).bind (·.exp)

/-- "once a clean-jobs notify arrives, earlier jobs stop being honoured after the configured
timeout": a clean notify at `T` stamps every earlier unstamped announcement with `T + timeout`. -/
theorem clean_notify_stamps (s : State) (id : String) (T : Int) (i : Nat) (hi : i < s.log.length)
    (h : expAt s i = none) : expAt (notify s id true T) i = some (T + s.timeout) := by
  unfold expAt notify at *
  rw [if_pos rfl, List.getElem?_append_left (by simpa using hi), List.getElem?_map]
  rw [List.getElem?_eq_getElem hi] at h ⊢
  simp only [Option.bind_some, Option.map_some] at h ⊢
  simp [stamp, h]

theorem expAt_step (s : State) (op : Op) (i : Nat) (hi : i < s.log.length) :
    expAt (specStep s op).1 i = expAt s i ∨ expAt s i = none ∧ ∃ id t, op = .notify id true t := by
  obtain ⟨f, tl, e, hf⟩ := specStep_log s op
  simp only [expAt, e, List.getElem?_append_left (by simpa using hi : i < (s.log.map f).length),
    List.getElem?_map, List.getElem?_eq_getElem hi]
  exact hf _

/-- "... and not before": no operation ever changes an expiry instant once it is set, so a later
clean notify cannot prolong (or shorten) the life of an already stamped job. -/
theorem exp_stable (s : State) (op : Op) (i : Nat) (e : Int) (h : expAt s i = some e) :
    expAt (specStep s op).1 i = some e := by
  have hi : i < s.log.length :=
    Nat.lt_of_not_le fun hi => by simp [expAt, List.getElem?_eq_none hi] at h
  rcases expAt_step s op i hi with h' | ⟨h', _⟩
  · rw [h', h]
  · rw [h] at h'; cases h'

/-- an unstamped announcement stays unstamped under everything except a clean notify -/
theorem exp_none_stable (s : State) (op : Op) (i : Nat) (hi : i < s.log.length)
    (h : expAt s i = none) (hop : ∀ id t, op ≠ .notify id true t) :
    expAt (specStep s op).1 i = none := by
  rcases expAt_step s op i hi with h' | ⟨_, id, t, e⟩
  · rw [h', h]
  · exact absurd e (hop id t)

/-- "the job re-announced on a switch is always the most recent one" -/
theorem latest_is_last (s : State) (id : String) (c : Bool) (t : Int) :
    latest (notify s id c t) = some s.log.length := by
  simp [latest, notify]

/-- "a share repeating the same extranonce2, ntime, nonce and version bits is refused and a share
differing in any of them is not" — at the level of share keys ... -/
theorem duplicate_iff (s : State) (id : String) (sh : List Nat) (now : Int) (a : Ann)
    (hf : findLatest id (lastN s.window s.log) = some a) (he : expired a now = false) :
    ((submit s id sh now).2 = .duplicate ↔ sh ∈ a.shares) := by
  rw [submit_verdict, hf]; simp only [he]
  by_cases hd : sh ∈ a.shares <;> simp [hd]

/-- ... and the 20-byte key is injective on well-formed submits (extranonce2 of the job's fixed
size `n ≤ 8`, 4-byte ntime / nonce / version bits). -/
theorem serializeShare_injective (n : Nat) (e1 t1 c1 m1 e2 t2 c2 m2 : List Nat)
    (h1 : shareWellFormed n e1 t1 c1 m1) (h2 : shareWellFormed n e2 t2 c2 m2)
    (h : serializeShare e1 t1 c1 m1 = serializeShare e2 t2 c2 m2) :
    e1 = e2 ∧ t1 = t2 ∧ c1 = c2 ∧ m1 = m2 := by
  obtain ⟨ha1, hn, ha2, ha3, ha4⟩ := h1
  obtain ⟨hb1, _, hb2, hb3, hb4⟩ := h2
  unfold serializeShare at h
  rw [padTake_of_length ha2, padTake_of_length ha3, padTake_of_length ha4, padTake_of_length hb2,
    padTake_of_length hb3, padTake_of_length hb4] at h
  obtain ⟨h, hm⟩ := List.append_inj' h (ha4.trans hb4.symm)
  obtain ⟨h, hc⟩ := List.append_inj' h (ha3.trans hb3.symm)
  obtain ⟨h, ht⟩ := List.append_inj' h (ha2.trans hb2.symm)
  have := congrArg (List.take n) h
  rw [take_padTake ha1 hn, take_padTake hb1 hn] at this
  exact ⟨this, ht, hc, hm⟩

/-! ### Non-vacuity: concrete histories meeting the hypotheses -/

example : runSpec { window := 3, timeout := 120 }
    [.notify "a" false 0, .notify "a" false 1, .notify "b" false 2, .notify "c" true 3,
     .submit "a" [1] 100, .submit "a" [1] 101, .submit "a" [2] 123, .submit "a" [3] 124,
     .submit "c" [1] 1000, .latest] =
    [.unit, .unit, .unit, .unit, .verdict (.checked 1), .verdict .duplicate,
     .verdict (.checked 1), .verdict .notFound, .verdict (.checked 3), .latest (some 3)] := by
  decide +kernel

example : shareWellFormed 2 [1, 2] [0, 0, 0, 1] [9, 9, 9, 9] [0, 0, 0, 0] := by
  simp [shareWellFormed]

end PRV.Props.C19
