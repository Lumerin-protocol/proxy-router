import PRV.Model.Seller
import PRV.Model.WatcherStop
import PRV.Gen.C08
/-
C08 — Seller contracts are fulfilled exactly while they run on chain, across restarts.
Theorems about `Model/Seller.lean`, for every controller state, chain state and instant.
-/
namespace PRV.Props.C08
open PRV.Model.Seller

/-- the chain says: purchased, not yet over, and the destination decrypts to a pool -/
def Live (ch : Chain) (now : Int) (h : String) : Prop :=
  ch.purchased = true ∧ now < ch.startedAt + ch.len ∧ ch.payload = .valid h

def Inv (c : Ctl) : Prop := c.run.isSome → c.terms.dest.isSome

/-- miners are allocated from ten seconds after the start until the watcher stops -/
def allocates (c : Ctl) (now : Int) : Prop :=
  ∃ since, c.run = some since ∧ since + 10 ≤ now ∧ now < exitAt c.terms since

theorem load_valid (ch : Chain) (h : String) (hp : ch.payload = .valid h) :
    load ch = ({ purchased := ch.purchased, startedAt := ch.startedAt, len := ch.len, speed := ch.speed, dest := some h }, false) := by
  unfold load; rw [hp]

theorem Inv.of_idle {c : Ctl} (h : c.run = none) : Inv c := fun hr => by rw [h] at hr; cases hr
theorem Inv.of_dest {c : Ctl} {d : String} (h : c.terms.dest = some d) : Inv c := fun _ => by rw [h]; rfl

theorem inv_boot_and_handlers (c : Ctl) (ch : Chain) (now : Int) (hi : Inv c) :
    Inv (onPurchased c ch now) ∧ Inv (onClosed c ch) ∧ Inv (onDestUpdated c ch now) ∧ Inv (settle c now) := by
  refine ⟨?_, .of_idle rfl, ?_, ?_⟩
  · fun_cases onPurchased c ch now
    · exact hi
    · exact .of_idle (Option.not_isSome_iff_eq_none.1 ‹_›)
    · exact .of_idle (Option.not_isSome_iff_eq_none.1 ‹_›)
    · exact .of_idle (Option.not_isSome_iff_eq_none.1 ‹_›)
    · exact .of_dest ‹_›
  · fun_cases onDestUpdated c ch now
    · exact .of_idle rfl
    · exact .of_idle rfl
    · exact .of_dest ‹_›
  · fun_cases settle c now
    · exact hi
    · exact .of_idle rfl
    · exact hi

/-- **only while it runs on chain**: whenever miners are being allocated for the contract, the terms
the controller holds say purchased, not over, with a destination -/
theorem allocates_only_live (c : Ctl) (now : Int) (hi : Inv c) (h : allocates c now) :
    c.terms.purchased = true ∧ now < c.terms.startedAt + c.terms.len ∧ c.terms.dest.isSome := by
  obtain ⟨since, hr, h10, hx⟩ := h
  unfold exitAt at hx
  split at hx
  · rename_i hc
    exact ⟨hc.1, hx, hi (by rw [hr]; rfl)⟩
  · omega

/-- a close stops the fulfilment at once, whatever the chain then says -/
theorem close_stops (c : Ctl) (ch : Chain) : (onClosed c ch).run = none := rfl

theorem settle_stops (c : Ctl) (since now : Int) (hr : c.run = some since) (h10 : since + 10 ≤ now)
    (hover : c.terms.purchased = false ∨ c.terms.startedAt + c.terms.len ≤ now) : (settle c now).run = none := by
  have : exitAt c.terms since ≤ now := by
    unfold exitAt
    split
    · rcases hover with h | h
      · simp_all
      · exact h
    · exact h10
  simp [settle, hr, this]

/-- expiry stops it: once the contract's time is over the watcher is not running -/
theorem expiry_stops (c : Ctl) (since now : Int) (hr : c.run = some since)
    (hover : c.terms.startedAt + c.terms.len ≤ now) (h10 : since + 10 ≤ now) : (settle c now).run = none :=
  settle_stops c since now hr h10 (.inr hover)

/-- **fail closed**: a purchase whose destination is empty or does not decrypt starts nothing and sets
the contract's error; so does such a destination update, which also stops a running fulfilment -/
theorem bad_payload_not_fulfilled (c : Ctl) (ch : Chain) (now : Int) (hn : c.run = none)
    (hb : ch.payload = .bad ∨ ch.payload = .empty) (hl : ch.purchased = true ∧ now < ch.startedAt + ch.len) :
    (onPurchased c ch now).run = none ∧ (onPurchased c ch now).err = true ∧
    (onDestUpdated c ch now).run = none ∧ (onDestUpdated c ch now).err = true := by
  rcases hb with hb | hb
  · simp [onPurchased, onDestUpdated, load, hb, hn]
  · simp [onPurchased, onDestUpdated, load, hb, hn, Terms.shouldRun, hl.1, hl.2]

/-- **a purchase engages**: a live contract is fulfilled towards its buyer's pool from the purchase on -/
theorem purchase_engages (c : Ctl) (ch : Chain) (now : Int) (h : String) (hn : c.run = none) (hl : Live ch now h) :
    (onPurchased c ch now).run = some now ∧ fulfilling (onPurchased c ch now) = some h ∧ (onPurchased c ch now).err = false := by
  obtain ⟨hp, ht, hpay⟩ := hl
  simp [onPurchased, hn, load_valid ch h hpay, Terms.shouldRun, hp, ht, fulfilling]

/-- … **under the terms on chain at that moment**: the length and speed the watcher works with are the
purchase's -/
theorem purchase_takes_chain_terms (c : Ctl) (ch : Chain) (now : Int) (h : String) (hn : c.run = none) (hl : Live ch now h) :
    (onPurchased c ch now).terms.len = ch.len ∧ (onPurchased c ch now).terms.speed = ch.speed ∧
    (onPurchased c ch now).terms.startedAt = ch.startedAt := by
  obtain ⟨hp, ht, hpay⟩ := hl
  simp [onPurchased, hn, load_valid ch h hpay, Terms.shouldRun, hp, ht]

/-- **re-engaged after a re-purchase**: close, then purchase again under new terms -/
theorem repurchase_reengages (c : Ctl) (ch0 ch : Chain) (now : Int) (h : String) (hl : Live ch now h) :
    fulfilling (onPurchased (onClosed c ch0) ch now) = some h :=
  (purchase_engages (onClosed c ch0) ch now h rfl hl).2.1

/-- **from every chain state the node may be restarted in**: a node (re)started at any point of a live
contract's life fulfils it; started on a contract that is not live, it does not -/
theorem restart_resumes (ch : Chain) (now : Int) (h : String) (hl : Live ch now h) :
    fulfilling (boot ch now) = some h := by
  obtain ⟨hp, ht, hpay⟩ := hl
  simp [boot, Terms.shouldRun, hp, ht, onPurchased, load_valid ch h hpay, fulfilling]

theorem restart_not_live (ch : Chain) (now : Int) (hl : ch.purchased = false ∨ ch.startedAt + ch.len ≤ now) :
    (boot ch now).run = none := by
  have : ({ purchased := ch.purchased, startedAt := ch.startedAt, len := ch.len, speed := ch.speed } : Terms).shouldRun now = false := by
    unfold Terms.shouldRun
    rcases hl with hl | hl
    · simp [hl]
    · simp; intro _; omega
  simp [boot, this]

theorem onDestUpdated_valid (c : Ctl) (ch : Chain) (now : Int) (h : String) (hpay : ch.payload = .valid h) :
    onDestUpdated c ch now = { terms := (load ch).1, run := some now, err := false } ∧ (load ch).1.dest = some h := by
  simp [onDestUpdated, load_valid ch h hpay]

/-- **a destination update is followed**: a live, running contract whose destination changes to another
valid pool is fulfilled towards the new pool -/
theorem dest_update_followed (c : Ctl) (ch : Chain) (now : Int) (h : String) (hpay : ch.payload = .valid h) :
    fulfilling (onDestUpdated c ch now) = some h := by
  rw [(onDestUpdated_valid c ch now h hpay).1]; exact (onDestUpdated_valid c ch now h hpay).2

/-- a destination update that reaches a contract which is over starts a watcher that allocates nothing: it
stops by itself ten seconds later, before the start-up delay has passed -/
theorem dest_update_on_ended_contract_stops (c : Ctl) (ch : Chain) (now : Int) (h : String) (hpay : ch.payload = .valid h)
    (hover : ch.purchased = false ∨ ch.startedAt + ch.len ≤ now) :
    (settle (onDestUpdated c ch now) (now + 10)).run = none := by
  rw [(onDestUpdated_valid c ch now h hpay).1]
  refine settle_stops _ now _ rfl (Int.le_refl _) ?_
  rw [load_valid ch h hpay]
  exact hover.imp_right fun hend => by simp only; omega

/-- **a terms update never disturbs a running fulfilment**: it keeps running, towards the same pool, under
the terms of its purchase (the new terms apply after the close) … -/
theorem terms_update_while_running (c : Ctl) (ch : Chain) (hr : c.run.isSome) :
    (onTermsUpdated c ch).run = c.run ∧ (onTermsUpdated c ch).terms = c.terms ∧
    fulfilling (onTermsUpdated c ch) = fulfilling c := by
  simp [onTermsUpdated, hr, fulfilling]

/-- … **and never starts one**: on an idle contract it only replaces the terms held by what the chain says -/
theorem terms_update_idle (c : Ctl) (ch : Chain) (hn : c.run = none) :
    (onTermsUpdated c ch).run = none ∧ (onTermsUpdated c ch).terms = (load ch).1 := by
  simp [onTermsUpdated, hn]

/-- **re-engaged under the new terms after a re-purchase**: close, any terms update in between, purchase —
the watcher runs with the length and speed the chain holds at the purchase, towards the purchase's pool -/
theorem repurchase_under_new_terms (c : Ctl) (ch0 ch1 ch : Chain) (now : Int) (h : String) (hl : Live ch now h) :
    let c' := onPurchased (onTermsUpdated (onClosed c ch0) ch1) ch now
    fulfilling c' = some h ∧ c'.terms.len = ch.len ∧ c'.terms.speed = ch.speed := by
  have hn : (onTermsUpdated (onClosed c ch0) ch1).run = none := (terms_update_idle _ ch1 rfl).1
  exact ⟨(purchase_engages _ ch now h hn hl).2.1, (purchase_takes_chain_terms _ ch now h hn hl).1,
    (purchase_takes_chain_terms _ ch now h hn hl).2.1⟩

theorem inv_termsUpdated (c : Ctl) (ch : Chain) (hi : Inv c) : Inv (onTermsUpdated c ch) := by
  fun_cases onTermsUpdated c ch
  · exact hi
  · exact .of_idle (Option.not_isSome_iff_eq_none.1 ‹_›)

theorem inv_boot (ch : Chain) (now : Int) : Inv (boot ch now) := by
  fun_cases boot ch now
  · exact (inv_boot_and_handlers _ ch now (.of_idle rfl)).1
  · exact .of_idle rfl

theorem inv_apply (c : Ctl) (e : Ev) (ch : Chain) (now : Int) (hi : Inv c) : Inv (apply c e ch now) := by
  have hs : Inv (settle c now) := (inv_boot_and_handlers c ch now hi).2.2.2
  unfold apply
  cases e with
  | purchased => exact (inv_boot_and_handlers _ ch now hs).1
  | closed => exact (inv_boot_and_handlers _ ch now hs).2.1
  | destUpdated => exact (inv_boot_and_handlers _ ch now hs).2.2.1
  | termsUpdated => exact inv_termsUpdated _ ch hs
  | restart => exact inv_boot ch now
  | tick => exact hs
  | purchasedNoRpc =>
    show Inv (onPurchasedNoRpc (settle c now))
    unfold onPurchasedNoRpc; split <;> exact hs
  | closedNoRpc => exact .of_idle rfl
  | destUpdatedNoRpc => exact hs
  | termsUpdatedNoRpc => exact hs

/-- **for every history** of purchase, close, destination-update and terms-update events, restarts and the
passing of time, whatever the chain answers at each of them, and from every chain state the node is first
started in: a running watcher has a destination … -/
theorem history_inv (ch0 : Chain) (t0 : Int) (h : List (Ev × Chain × Int)) : Inv (runHist (boot ch0 t0) h) :=
  List.foldlRecOn h _ (inv_boot ch0 t0) fun c hc x _ => inv_apply c x.1 x.2.1 x.2.2 hc

/-- … and so **miners are allocated only while the terms held say purchased, unexpired, with a destination** -/
theorem history_allocates_only_live (ch0 : Chain) (t0 : Int) (h : List (Ev × Chain × Int)) (now : Int)
    (ha : allocates (runHist (boot ch0 t0) h) now) :
    let c := runHist (boot ch0 t0) h
    c.terms.purchased = true ∧ now < c.terms.startedAt + c.terms.len ∧ c.terms.dest.isSome :=
  allocates_only_live _ now (history_inv ch0 t0 h) ha

/-- **a node that refuses calls never starts, redirects or re-terms a fulfilment**: an event handled while the chain
cannot be read leaves the terms and the destination as they are, starts nothing, and only a close stops anything -/
theorem rpc_failure_is_harmless (c : Ctl) :
    (onPurchasedNoRpc c).terms = c.terms ∧ (onPurchasedNoRpc c).run = c.run ∧
    (onDestUpdatedNoRpc c).terms = c.terms ∧ (onDestUpdatedNoRpc c).run = c.run ∧
    (onTermsUpdatedNoRpc c).terms = c.terms ∧ (onTermsUpdatedNoRpc c).run = c.run ∧
    (onClosedNoRpc c).terms = c.terms ∧ (onClosedNoRpc c).run = none := by
  fun_cases onPurchasedNoRpc c <;> exact ⟨rfl, rfl, rfl, rfl, rfl, rfl, rfl, rfl⟩

/-- the terms of a fulfilment do not change while it continues: neither a purchase event nor a terms update
nor the passing of time touches the terms of a watcher that keeps running -/
theorem running_terms_fixed (c : Ctl) (e : Ev) (ch : Chain) (now since : Int)
    (he : e = .purchased ∨ e = .termsUpdated ∨ e = .tick)
    (hr : (settle c now).run = some since) : (apply c e ch now).terms = c.terms ∧ (apply c e ch now).run = some since := by
  have hst : (settle c now).terms = c.terms := by fun_cases settle c now <;> rfl
  rcases he with he | he | he <;> subst he <;> simp [apply, onPurchased, onTermsUpdated, hr, hst]

-- the hypotheses are met: a history with a terms update in the middle of a running purchase and a
-- re-purchase under other terms
example :
    let ch1 : Chain := { purchased := true, startedAt := 100, len := 300, speed := 1000, payload := .valid "poolx" }
    let ch2 : Chain := { purchased := false, len := 600, speed := 2000 }
    let ch3 : Chain := { purchased := true, startedAt := 500, len := 600, speed := 2000, payload := .valid "pooly" }
    let c := runHist (boot {} 0) [(.purchased, ch1, 100), (.termsUpdated, ch1, 150), (.tick, ch1, 160)]
    let c' := runHist c [(.closed, ch2, 200), (.termsUpdated, ch2, 210), (.purchased, ch3, 500)]
    fulfilling c = some "poolx" ∧ c.terms.speed = 1000 ∧ allocates c 160 ∧
    fulfilling c' = some "pooly" ∧ c'.terms.speed = 2000 ∧ c'.terms.len = 600 := by
  refine ⟨by decide, by decide, ⟨100, by decide, by decide, by decide⟩, by decide, by decide, by decide⟩

/-! ### the stopping watcher against the handler that waited for it (regenerated order, every interleaving) -/

section watcherStop
open PRV.Model.WatcherStop

/-- the goroutine clears the running flag before it closes the done channel (the channel of *its* run, captured before the
goroutine started), and `SetTerms` refuses while the flag is set -/
theorem source_flag_cleared_before_done :
    goroutineOf PRV.Gen.C08.startGoroutine = [.clearFlag, .closeDone] ∧
    PRV.Gen.C08.startBefore.getLast? = some "doneCh := p.doneCh" ∧
    PRV.Gen.C08.setTerms = ["if p.isRunning { return }", "p.Terms = terms"] :=
  ⟨by decide +kernel, by decide +kernel, rfl⟩

/-- **in the code's order every interleaving with a handler that waited for `Done()` ends well**: the new terms are
accepted, the new watcher runs with them and its flag is set — over the regenerated statement order -/
theorem restart_after_done_is_clean :
    ∀ tr ∈ merges (goroutineOf PRV.Gen.C08.startGoroutine) handler, valid tr = true → good (run tr) = true := by decide +kernel

/-- with the two statements the other way round (as before `833ac43`) some interleaving loses the update: the new terms are
refused, or the old goroutine clears the flag of the new watcher, which can then not be stopped -/
theorem done_before_flag_loses_an_update :
    ∃ tr ∈ merges [.closeDone, .clearFlag] handler, valid tr = true ∧ good (run tr) = false := by decide +kernel

-- the enumeration is the full one: C(4,2) = 6 interleavings, of which one respects the wait in the code's order and three the other way round
example : (merges [.clearFlag, .closeDone] handler).length = 6 ∧ ((merges [.clearFlag, .closeDone] handler).filter valid).length = 1 ∧
    ((merges [.closeDone, .clearFlag] handler).filter valid).length = 3 := by decide

end watcherStop

end PRV.Props.C08
