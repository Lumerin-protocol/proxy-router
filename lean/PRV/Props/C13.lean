import PRV.Model.Relay
import PRV.Gen.C13
import PRV.Props.C06
import PRV.Proofs.Session
/-
C13 — Ending a session releases everything; resources stay bounded meanwhile.
Theorems about `Model/Session.lean` (destination cache) and `Model/Life.lean` (end of a session).
-/
namespace PRV.Props.C13
open PRV.Model.Session PRV.Model.Life PRV.Proofs.Session

def bound (s : Sess) : Nat := max s.maxCached 1

theorem oldest_mem (s : Sess) (o : Dest) (t : Bool) (h : oldest s = (some o, t)) : o ∈ s.dests := by
  unfold oldest at h
  cases hd : s.dests with
  | nil => simp [hd] at h
  | cons d rest =>
    simp only [hd, Prod.mk.injEq, Option.some.injEq] at h
    rw [← h.1]
    refine List.foldlRecOn (motive := fun acc : Dest × Bool => acc.1 ∈ d :: rest) rest _ List.mem_cons_self fun acc hacc x hx => ?_
    unfold pickOlder
    split
    · exact List.mem_cons_of_mem _ hx
    · split <;> exact hacc

theorem oldest_none (s : Sess) (t : Bool) (h : oldest s = (none, t)) : s.dests = [] := by
  unfold oldest at h
  cases hd : s.dests with
  | nil => rfl
  | cons d rest => simp [hd] at h

theorem evict_room (s : Sess) (k : String × String) (h : s.dests.length ≤ bound s) :
    (evict s k).1.dests.length + 1 ≤ bound s := by
  fun_cases evict s k with
  | case1 _ o t ho =>
    exact Nat.le_trans (List.length_filter_lt_length_iff_exists.mpr ⟨o, oldest_mem s o t ho, by simp⟩) h
  | case2 _ t ho => rw [oldest_none s t ho]; exact Nat.le_max_right _ _
  | case3 hfull => exact Nat.le_trans (Nat.lt_of_not_ge hfull) (Nat.le_max_left _ _)

/-- eviction brings a full cache below its maximum -/
theorem evict_makes_room (s : Sess) (k : String × String) (h : s.dests.length ≤ bound s) :
    (evict s k).1.dests.length + 1 ≤ bound s ∨ ((evict s k).1.dests = [] ∧ s.maxCached = 0) :=
  .inl (evict_room s k h)

theorem evict_maxCached (s : Sess) (k : String × String) : (evict s k).1.maxCached = s.maxCached := by
  fun_cases evict s k <;> rfl

theorem install_length (s2 : Sess) (nd : Dest) (cb : Option Nat) (cbN : Nat) :
    (install s2 nd cb cbN).dests.length ≤ s2.dests.length + 1 := by
  unfold install
  dsimp only
  split
  · exact Nat.le_succ_of_le (Nat.le_of_eq (List.length_map _))
  · exact Nat.le_of_eq List.length_append

/-- **the cache never exceeds its maximum**: a destination switch — to a new, a cached or the current
destination, successful or not — leaves at most `max maxCached 1` destination connections -/
theorem switch_keeps_cache_bounded (s : Sess) (pool : String) (cb : Option Nat) (cbN : Nat)
    (h : s.dests.length ≤ bound s) :
    (switchWith s pool cb cbN).1.dests.length ≤ bound s := by
  rcases switchWith_cases s pool cb cbN rfl with ⟨-, e⟩ | ⟨s', pre, w, e, -, -, hl⟩ | ⟨p, msgs, -, -, e⟩ <;> rw [e]
  · exact h
  · exact Nat.le_trans hl h
  · obtain ⟨-, hl, hm, -⟩ := acquire_spec s pool p ("acct" ++ pool ++ ".w" ++ pool)
    have hb : bound (acquire s pool p ("acct" ++ pool ++ ".w" ++ pool)).1 = bound s := congrArg (max · 1) hm
    have hroom := evict_room _ (pool, "acct" ++ pool ++ ".w" ++ pool) (hb ▸ Nat.le_trans hl h)
    exact Nat.le_trans (install_length _ _ _ _) (hb ▸ hroom)

/-- nothing but a switch adds a destination connection: the events of the mining phase replace
entries in place -/
theorem events_keep_cache_size (s : Sess) (d : Dest) : (setDest' s d).dests.length = s.dests.length := by
  simp [setDest']

/-- **however it ends, nothing stays open**: the miner hanging up, the node shutting down, a failed
reconnect — each ends in `release`, which closes every pool connection the session holds and
leaves none -/
theorem end_releases_everything (l : Life) :
    (∀ k, l.phase ≠ .released k) →
    (l.phase = .relaying → (minerClose l).1.s.dests = [] ∧ ∀ d ∈ l.s.dests, Out.toPool d.pool d.conn "closed" ∈ (minerClose l).2) ∧
    ((shutdown l).1.s.dests = [] ∧ ∀ d ∈ l.s.dests, Out.toPool d.pool d.conn "closed" ∈ (shutdown l).2) := by
  intro hnr
  constructor
  · intro hrel
    unfold minerClose
    simp only [hrel]
    exact PRV.Props.C06.release_closes_everything l "source" []
  · unfold shutdown
    cases hp : l.phase with
    | released k => exact absurd hp (hnr k)
    | relaying | waiting u => exact PRV.Props.C06.release_closes_everything l "shutdown" []

/-- once released, nothing happens any more: no event dials, reconnects or reopens anything -/
theorem released_is_final (l : Life) (k : String) (h : l.phase = .released k) :
    reconnect l = (l, []) ∧ minerClose l = (l, []) ∧ shutdown l = (l, []) ∧ ∀ p, poolClose l p = (l, []) :=
  PRV.Props.C06.released_ops l k h

/-! ### a single relay loop (Model/Relay.lean) -/

section relay
open PRV.Model.Relay

/-- no pipe the proxy has let go of is still running -/
def Inv (r : Relay) : Prop := ∀ p ∈ r.old, p.s2d ≠ .running ∧ p.d2s ≠ .running

theorem stop_not_running (d : Dir) : d.stop ≠ .running := by cases d <;> simp [Dir.stop]

theorem step_inv (r : Relay) (op : Op) (h : Inv r) : Inv (step true r op) := by
  cases op with
  | runStart | renew =>
    unfold step
    cases r.cur with
    | none => exact h
    | some q => exact List.forall_mem_cons.mpr ⟨⟨stop_not_running _, stop_not_running _⟩, h⟩
  | destError | sourceError | setDest | runExit => exact h

theorem reachable_inv (ops : List Op) : Inv (run true ops) :=
  List.foldlRecOn ops _ (fun _ h => nomatch h) fun r h op _ => step_inv r op h

/-- readers of one direction: none among the pipes let go of, at most the current one -/
theorem readers_le {r : Relay} (f : Pipe → Dir) (h : ∀ p ∈ r.old, f p ≠ .running) :
    ((pipes r).filter fun p => f p = .running).length ≤ 1 := by
  unfold pipes
  rw [List.filter_append, List.filter_eq_nil_iff.mpr fun p (hp : p ∈ r.old) => by simpa using h p hp, List.append_nil]
  exact Nat.le_trans (List.length_filter_le _ _) Option.length_toList_le

/-- **a single relay loop**: whatever sequence of starts, failures, reconnects, changes of destination and exits a
session goes through, at most one goroutine reads the miner's connection and at most one relays from a pool -/
theorem single_relay_loop (ops : List Op) :
    sourceReaders (run true ops) ≤ 1 ∧ destReaders (run true ops) ≤ 1 :=
  ⟨readers_le (·.s2d) fun p hp => (reachable_inv ops p hp).1, readers_le (·.d2s) fun p hp => (reachable_inv ops p hp).2⟩

/-- before commit 900d8c3: `Run`, started again after it had exited with a destination error and the scheduler had
changed back to the primary destination, left the old pipe reading the miner's connection next to the new one -/
theorem run_restart_two_readers_before_fix :
    sourceReaders (run false [.runStart, .destError, .runExit, .setDest, .runStart]) = 2 := by decide

example : sourceReaders (run true [.runStart, .destError, .runExit, .setDest, .runStart]) = 1 := by decide

end relay

/-! ### the order in the source (regenerated from `Scheduler.onDisconnect` on every run) -/

/-- **the session stops being eligible before its tasks are told**: `onDisconnect` raises the disconnecting flag, then walks
the queue telling every task (`OnDisconnect`, `OnEnd`), then drops the task in service — a contract that reacts to the
notification by asking for a replacement is never handed the ending session -/
theorem source_disconnect_flag_first :
    PRV.Gen.C13.onDisconnectCalls.idxOf "isDisconnecting.Store" < PRV.Gen.C13.onDisconnectCalls.idxOf "tasks.Range" ∧
    PRV.Gen.C13.onDisconnectCalls.idxOf "tasks.Range" < PRV.Gen.C13.onDisconnectCalls.idxOf "tasks.UnlockAndRemove" ∧
    "tasks.UnlockAndRemove" ∈ PRV.Gen.C13.onDisconnectCalls ∧
    "OnDisconnect" ∈ PRV.Gen.C13.onDisconnectNotifies ∧ "OnEnd" ∈ PRV.Gen.C13.onDisconnectNotifies := by decide +kernel

/-- however `Scheduler.Run` ends it stops the relay task it started — the clean-up is a closure, so it sees the task that was
created *after* the `defer` statement (a deferred call would have been handed the nil of that moment): a session that the
scheduler ends while `Proxy.Run` is still alive (a failed change of destination) is torn down, pool connections included -/
theorem source_scheduler_stops_its_proxy_task : PRV.Gen.C13.schedulerRunDefers = ["closure: proxyTask.Stop"] := rfl

end PRV.Props.C13
