import PRV.Model.Conn
/-
C14 — Stratum lines are delivered whole, once and in order despite cancellation.
Theorems about `Model/Conn.lean`, for every byte stream, every segmentation of it, every
interleaving of arrivals, `Read` calls and cancellations (at any point the real `ReadBytes` can be
interrupted at), every line classifier, and every sequence of writes cut at any byte.
-/
namespace PRV.Props.C14
open PRV.Model.Conn

/-! ### lines of a byte stream (specification) -/

/-- the complete lines of a stream (newline included) and the unterminated rest -/
def splitAux : List Nat → List Nat → List (List Nat) × List Nat
  | cur, [] => ([], cur)
  | cur, b :: rest =>
    if b = 10 then ((cur ++ [10]) :: (splitAux [] rest).1, (splitAux [] rest).2)
    else splitAux (cur ++ [b]) rest

def splitLines (p : List Nat) : List (List Nat) × List Nat := splitAux [] p

def IsLine (l : List Nat) : Prop := ∃ body, l = body ++ [10] ∧ 10 ∉ body

theorem splitAux_append (body cur rest : List Nat) (h : 10 ∉ body) :
    splitAux cur (body ++ rest) = splitAux (cur ++ body) rest := by
  induction body generalizing cur with
  | nil => simp
  | cons b bs ih =>
    rw [List.mem_cons, not_or] at h
    rw [List.cons_append, splitAux, if_neg (Ne.symm h.1), ih _ h.2, List.append_assoc, List.singleton_append]

theorem splitAux_line (body rest cur : List Nat) (h : 10 ∉ body) :
    splitAux cur (body ++ [10] ++ rest) = ((cur ++ body ++ [10]) :: (splitAux [] rest).1, (splitAux [] rest).2) := by
  rw [List.append_assoc, splitAux_append _ _ _ h, List.singleton_append, splitAux, if_pos rfl]

theorem splitAux_noline (p cur : List Nat) (h : 10 ∉ p) : splitAux cur p = ([], cur ++ p) := by
  rw [← p.append_nil, splitAux_append _ _ _ h, splitAux, List.append_nil]

theorem splitLines_flatten (ls : List (List Nat)) (rest : List Nat) (h : ∀ l ∈ ls, IsLine l) :
    (splitLines (ls.flatten ++ rest)).1 = ls ++ (splitLines rest).1 := by
  induction ls with
  | nil => rfl
  | cons l more ih =>
    obtain ⟨body, rfl, hb⟩ := h l (.head _)
    rw [List.flatten_cons, List.append_assoc, splitLines, splitAux_line body _ [] hb]
    exact congrArg _ (ih fun x hx => h x (.tail _ hx))

theorem takeLine_append (body rest : List Nat) (h : 10 ∉ body) :
    takeLine (body ++ 10 :: rest) = some (body ++ [10], rest) := by
  induction body with
  | nil => simp [takeLine]
  | cons b bs ih =>
    rw [List.mem_cons, not_or] at h
    rw [List.cons_append, takeLine, if_neg (Ne.symm h.1), ih h.2]; rfl

theorem takeLine_noline (p : List Nat) (h : 10 ∉ p) : takeLine p = none := by
  induction p with
  | nil => rfl
  | cons b bs ih =>
    rw [List.mem_cons, not_or] at h
    rw [takeLine, if_neg (Ne.symm h.1), ih h.2]

theorem takeLine_some {p l r : List Nat} (h : takeLine p = some (l, r)) : l ++ r = p ∧ IsLine l := by
  by_cases hp : 10 ∈ p
  · obtain ⟨body, rest, rfl, hb⟩ := List.eq_append_cons_of_mem hp
    rw [takeLine_append _ _ hb] at h
    cases h
    exact ⟨by simp, body, rfl, hb⟩
  · rw [takeLine_noline _ hp] at h; cases h

theorem takeLine_none (p : List Nat) (h : takeLine p = none) : 10 ∉ p := by
  intro hp
  obtain ⟨body, rest, rfl, hb⟩ := List.eq_append_cons_of_mem hp
  rw [takeLine_append _ _ hb] at h
  cases h

structure RInv (cls : List Nat → Kind) (s : RSt) : Prop where
  bytes : s.taken.flatten ++ s.stash ++ s.pending = s.sent
  lines : ∀ l ∈ s.taken, IsLine l
  stash : 10 ∉ s.stash
  ret   : s.returned = s.taken.filter (fun l => cls l = .known)

theorem inv_recv (cls : List Nat → Kind) (s : RSt) (seg : List Nat) (h : RInv cls s) : RInv cls (recv s seg) :=
  ⟨by simp [recv, ← h.bytes], h.lines, h.stash, h.ret⟩

theorem inv_cancel (cls : List Nat → Kind) (s : RSt) (k : Nat) (h : RInv cls s) (hk : 10 ∉ s.pending.take k) :
    RInv cls (cancel s k) :=
  ⟨by simpa [cancel] using h.bytes, h.lines, by simpa [cancel] using ⟨h.stash, hk⟩, h.ret⟩

/-- one line taken by `read`, whatever its class: the three branches of `read` differ only in `returned` -/
theorem inv_take (cls : List Nat → Kind) (s : RSt) (l rest : List Nat) (h : RInv cls s)
    (ht : takeLine s.pending = some (l, rest)) :
    RInv cls { s with pending := rest, stash := [], taken := s.taken ++ [s.stash ++ l],
                      returned := s.returned ++ if cls (s.stash ++ l) = .known then [s.stash ++ l] else [] } := by
  obtain ⟨e, body, rfl, hn⟩ := takeLine_some ht
  refine ⟨?_, ?_, List.not_mem_nil, ?_⟩
  · simp only [← h.bytes, ← e, List.flatten_append, List.flatten_singleton, List.append_assoc, List.append_nil]
  · simp only [List.mem_append, List.mem_singleton]
    intro x hx
    rcases hx with hx | rfl
    · exact h.lines x hx
    · exact ⟨s.stash ++ body, (List.append_assoc ..).symm, by simp [h.stash, hn]⟩
  · simp only [List.filter_append, h.ret, List.filter_cons, List.filter_nil, decide_eq_true_eq]

theorem inv_read (cls : List Nat → Kind) (fuel : Nat) (s : RSt) (h : RInv cls s) : RInv cls (read cls fuel s).1 := by
  fun_induction read cls fuel s with
  | case1 => exact h
  | case2 => exact h
  | case3 fuel s l rest ht line s' hc ih =>
    exact ih (by simpa [show cls (s.stash ++ l) = _ from hc] using inv_take cls s l rest h ht)
  | case4 fuel s l rest ht line s' hc | case5 fuel s l rest ht line s' hc =>
    simpa [show cls (s.stash ++ l) = _ from hc] using inv_take cls s l rest h ht

/-- events of the read side; a cancellation that would move a newline into the stash cannot happen
(`ReadBytes` returns a complete line instead of an error) and is a no-op here -/
inductive ROp where
  | recv (seg : List Nat)
  | read
  | cancel (k : Nat)
  | recvCancel (seg : List Nat)      -- bytes arrive and the pending read's context is cancelled at that instant

def rstep (cls : List Nat → Kind) (s : RSt) : ROp → RSt
  | .recv seg => recv s seg
  | .read => (readCall cls s).1
  | .cancel k => if 10 ∈ s.pending.take k then s else cancel s k
  | .recvCancel seg => (readCancelled cls (recv s seg)).1

theorem inv_readCancelled (cls : List Nat → Kind) (s : RSt) (h : RInv cls s) : RInv cls (readCancelled cls s).1 := by
  unfold readCancelled
  cases ht : takeLine s.pending with
  | none => exact inv_cancel cls s _ h fun hm => takeLine_none _ ht (List.mem_of_mem_take hm)
  | some lr => simpa using inv_read cls 1 s h

theorem inv_rstep (cls : List Nat → Kind) (s : RSt) (op : ROp) (h : RInv cls s) : RInv cls (rstep cls s op) := by
  cases op with
  | recv seg => exact inv_recv cls s seg h
  | read => exact inv_read cls _ s h
  | cancel k =>
    show RInv cls (if 10 ∈ s.pending.take k then s else cancel s k)
    split
    · exact h
    · exact inv_cancel cls s k h ‹_›
  | recvCancel seg => exact inv_readCancelled cls _ (inv_recv cls s seg h)

theorem inv_reachable (cls : List Nat → Kind) (ops : List ROp) : RInv cls (ops.foldl (rstep cls) {}) :=
  List.foldlRecOn ops _ ⟨rfl, nofun, nofun, rfl⟩ fun s h op _ => inv_rstep cls s op h

/-- **No byte is lost, duplicated or reordered.**  Whatever the segmentation, the reads and the
cancellations: the lines consumed so far, the saved fragment and the unread bytes are, concatenated,
exactly what the peer sent. -/
theorem read_prefix_invariant (cls : List Nat → Kind) (ops : List ROp) :
    let s := ops.foldl (rstep cls) {}
    s.taken.flatten ++ s.stash ++ s.pending = s.sent := (inv_reachable cls ops).bytes

/-- **Every message exactly once, unmodified, in order; unknown ones skipped without losing their
neighbours.**  The lines consumed are exactly the first lines of the stream the peer sent, and the
messages returned are exactly the known-method ones among them, in order. -/
theorem read_lines_exact (cls : List Nat → Kind) (ops : List ROp) :
    let s := ops.foldl (rstep cls) {}
    (∃ more, (splitLines s.sent).1 = s.taken ++ more) ∧
    s.returned = s.taken.filter (fun l => cls l = .known) := by
  intro s
  have h := inv_reachable cls ops
  refine ⟨⟨(splitLines (s.stash ++ s.pending)).1, ?_⟩, h.ret⟩
  rw [← h.bytes, List.append_assoc]
  exact splitLines_flatten _ _ h.lines

/-- **a line that arrives while its read is being cancelled is not thrown away**: when the bytes that came in completed a
known-method line, the cancelled call still returns that line (it has been taken out of the socket), and only that one -/
theorem cancelled_read_keeps_completed_line (cls : List Nat → Kind) (s : RSt) (l rest : List Nat)
    (ht : takeLine s.pending = some (l, rest)) (hk : cls (s.stash ++ l) = .known) :
    (readCancelled cls s).2 = some (.msg (s.stash ++ l)) ∧ (readCancelled cls s).1.pending = rest ∧
    (readCancelled cls s).1.taken = s.taken ++ [s.stash ++ l] := by
  simp [readCancelled, ht, Model.Conn.read, hk]

/-- and when no line is complete the cancelled call takes nothing: the bytes stay (stash ++ pending unchanged) -/
theorem cancelled_read_takes_nothing (cls : List Nat → Kind) (s : RSt) (ht : takeLine s.pending = none) :
    (readCancelled cls s).2 = none ∧ (readCancelled cls s).1.taken = s.taken ∧
    (readCancelled cls s).1.stash ++ (readCancelled cls s).1.pending = s.stash ++ s.pending := by
  simp [readCancelled, ht, cancel]

/-- a `Read` call only blocks when no complete line is left: every complete line that has arrived
is consumed by the reads that follow it -/
theorem read_blocks_only_when_no_line (cls : List Nat → Kind) (fuel : Nat) (s : RSt) (hf : s.pending.length < fuel)
    (hb : (read cls fuel s).2 = .blocked) : takeLine (read cls fuel s).1.pending = none := by
  fun_induction read cls fuel s with
  | case1 => omega
  | case2 _ _ ht => exact ht
  | case3 fuel s l rest ht line s' hc ih =>
    obtain ⟨e, body, rfl, _⟩ := takeLine_some ht
    exact ih (by rw [← e] at hf; simp at hf; simp [s']; omega) hb
  | case4 => cases hb
  | case5 => cases hb

/-- the fragment a cut write left on the wire -/
def tailOf : Option (List Nat × Nat) → List Nat
  | none => []
  | some (m, k) => (m ++ [10]).take k

structure WInv (s : WSt) : Prop where
  wire : s.wire = (s.done.map (· ++ [10])).flatten ++ tailOf s.cutAt
  closed : s.cutAt.isSome → s.closed = true
  cut : ∀ m k, s.cutAt = some (m, k) → 0 < k ∧ k < (m ++ [10]).length

theorem winv_write (s : WSt) (msg : List Nat) (cut : Option Nat) (h : WInv s) : WInv (write s msg cut).1 := by
  unfold write
  split
  · exact h
  have hn : s.cutAt = none := Option.not_isSome_iff_eq_none.1 fun hs => ‹¬ _› (h.closed hs)
  have full : WInv { s with wire := s.wire ++ (msg ++ [10]), done := s.done ++ [msg] } :=
    ⟨by simp [h.wire, hn, tailOf], by simp [hn], by simp [hn]⟩
  split
  · exact full
  dsimp only
  split
  · exact full
  split
  · exact h
  · refine ⟨by simp [h.wire, hn, tailOf], fun _ => rfl, fun m k e => ?_⟩
    cases e
    omega

/-- **Writers never interleave and a cut write is never followed by anything.**  For every sequence
of writes, each cut at any byte or not at all: the bytes on the wire are the complete lines of the
writes that succeeded, in order, followed by at most one fragment — and then the connection is
closed, so that no later write adds a byte. -/
theorem write_cancel_clean (ws : List (List Nat × Option Nat)) :
    let s := ws.foldl (fun s w => (write s w.1 w.2).1) {}
    s.wire = (s.done.map (· ++ [10])).flatten ++ tailOf s.cutAt ∧
    (tailOf s.cutAt ≠ [] → s.closed = true) ∧
    (∀ msg cut, s.closed = true → (write s msg cut).1.wire = s.wire ∧ (write s msg cut).2 = .closedErr) := by
  intro s
  have h : WInv s := List.foldlRecOn ws _ ⟨rfl, nofun, nofun⟩ fun s0 h0 w _ => winv_write s0 w.1 w.2 h0
  refine ⟨h.wire, ?_, ?_⟩
  · intro ht
    apply h.closed
    cases hc : s.cutAt with
    | none => simp [hc, tailOf] at ht
    | some x => rfl
  · intro msg cut hc
    simp [write, hc]

/-- a write that succeeded put exactly its line on the wire -/
theorem write_ok_appends_line (s : WSt) (msg : List Nat) (cut : Option Nat) (h : (write s msg cut).2 = .ok) :
    (write s msg cut).1.wire = s.wire ++ msg ++ [10] := by
  revert h
  fun_cases write s msg cut
  · nofun
  · exact fun _ => (List.append_assoc ..).symm
  · exact fun _ => (List.append_assoc ..).symm
  · nofun
  · nofun

/-! ### non-vacuity: a stream cut inside a line, with a cancelled read in between -/

example :
    let cls : List Nat → Kind := fun l => if l.length = 3 then .known else .unknown
    let s := [ROp.recv [65], .read, .cancel 1, .recv [66, 10, 67, 68, 69, 10, 70], .read, .read].foldl (rstep cls) {}
    s.returned = [[65, 66, 10]] ∧ s.taken = [[65, 66, 10], [67, 68, 69, 10]] ∧ s.pending = [70] := by decide

end PRV.Props.C14
