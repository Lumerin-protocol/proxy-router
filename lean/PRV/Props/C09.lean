import PRV.Model.Delivery
import PRV.Model.Tracking
import PRV.Props.C11
import PRV.Gen.C07
import PRV.Gen.C09b
/-
C09 — Delivery to a contract tracks the contracted rate.
Theorems about the cycle accounting of `Model/Delivery.lean`.  Partial: the accounting is proved
to track the rate when the allocator can arrange what is asked; what the real allocator can arrange
for a given population is observed (harness + monitor), and the population for which it cannot is a
theorem too (`small_miners_starve_then_flood`) and a known finding.
-/
namespace PRV.Props.C09
open PRV.Model.Delivery
open PRV.Gen

/-! ### facts about the source, regenerated on every run -/

/-- the thresholds the model's `adjust` uses are the ones in `adjustHashrate` -/
theorem thresholds : C09.thresholdAdjust = 100 ∧ C09.thresholdFull = 1000 ∧ C09.thresholdPartial = 100 := ⟨rfl, rfl, rfl⟩

def expectedCycleEnd : List String :=
  ["thisCycleActualGHS := hr.JobSubmittedToGHSV2(p.stats.totalJob(), cycleDuration)",
   "thisCycleUnderDeliveryGHS := p.HashrateGHS() - thisCycleActualGHS",
   "p.stats.globalUnderDeliveryGHS.Add(int64(thisCycleUnderDeliveryGHS))",
   "p.stats.deliveryTargetGHS = p.HashrateGHS() - p.getFullMinersHR() + float64(p.stats.globalUnderDeliveryGHS.Load())"]

/-- `onCycleEnd` books the cycle the way `cycleEnd` does: shortfall = rate − actual, added to the
cumulative shortfall; next request = rate − full miners + cumulative shortfall -/
theorem cycleEnd_source : C09.cycleEndStmts = expectedCycleEnd := rfl

def expectedAdjust : List String :=
  ["expectedAdjustmentGHS := hashrateGHS",
   "adjustmentRequired := math.Abs(hashrateGHS) > AdjustmentThresholdGHS",
   "if !adjustmentRequired { p.starvingGHS.Store(0); return 0 }",
   "if hashrateGHS < -fullMinerThresholdGHS { hashrateGHS += p.removeFullMiners(hashrateGHS) }",
   "if hashrateGHS > fullMinerThresholdGHS { hashrateGHS -= p.addFullMiners(hashrateGHS) }",
   "remainingCycleDuration := p.remainingCycleDuration()",
   "if hashrateGHS > partialMinersThresholdGHS { job := hr.GHSToJobSubmittedV2(hashrateGHS, remainingCycleDuration); addedJob := p.addPartialMiners(job, remainingCycleDuration); addedGHS := hr.JobSubmittedToGHSV2(addedJob, remainingCycleDuration); hashrateGHS -= addedGHS }",
   "if hashrateGHS > 0 { p.starvingGHS.Store(uint64(hashrateGHS)) } else { p.starvingGHS.Store(0) }",
   "deltaGHS := expectedAdjustmentGHS - hashrateGHS",
   "return deltaGHS"]

/-- `adjustHashrate` has the shape `adjust` models: no adjustment inside the threshold; shed, then
whole miners, then one-cycle jobs; the caller subtracts what was arranged -/
theorem adjust_source : C09.adjustSkeleton = expectedAdjust := rfl

/-- the delivery log reports the booked quantities (the correspondence check reads these) -/
theorem log_source : C09.logFields =
    ["ActualGHS: int(thisCycleActualGHS)", "UnderDeliveryGHS: int(thisCycleUnderDeliveryGHS)",
     "GlobalUnderDeliveryGHS: int(p.stats.globalUnderDeliveryGHS.Load())",
     "NextCyclePartialDeliveryTargetGHS: int(p.stats.deliveryTargetGHS)"] := rfl

/-- the share callback of partial miners calls the one-cycle jobs off when the cycle's average rate has reached the
contracted rate *plus the shortfall carried so far* — what `Model.Delivery.cutoff` is written from -/
theorem cutoff_source : C09.cutoffStmts =
    ["p.stats.onPartialMinerShare(diff, ID)",
     "actualCycleGHS := hr.JobSubmittedToGHSV2(p.stats.totalJob(), p.contractCycleDuration)",
     "expectedCycleGHS := p.HashrateGHS() + float64(p.stats.globalUnderDeliveryGHS.Load())",
     "if actualCycleGHS >= expectedCycleGHS { p.removeAllPartialMiners() }"] := rfl

/-- the book-keeping identity of `onCycleEnd`: the cumulative shortfall grows by this cycle's
shortfall, and the next request is the rate not covered by full miners plus the shortfall so far -/
theorem cycleEnd_books (a : Acc) (actual : Int) :
    (cycleEnd a actual).gU = a.gU + (a.H - actual) ∧
    (cycleEnd a actual).target = a.H - a.full + (cycleEnd a actual).gU ∧
    (cycleEnd a actual).full = a.full ∧ (cycleEnd a actual).H = a.H := ⟨rfl, rfl, rfl, rfl⟩

/-- the steady state: nothing owed, the request is the contracted rate -/
def Steady (a : Acc) : Prop := a.full = 0 ∧ a.gU = 0 ∧ a.target = a.H

theorem pos_of_significant {t : Int} (h : thresholdAdjust < t) : 0 < t := Int.lt_of_le_of_lt (by decide) h

theorem adjust_pos (al : Alloc) (a : Acc) (h : thresholdAdjust < a.target) :
    adjust al a =
      (let added := if a.target > thresholdFull then al.addFull a.target else 0
       let part := if a.target - added > thresholdPartial then al.addPartial (a.target - added) else 0
       ({ a with full := a.full + added, target := a.target - added - part }, part)) := by
  have : 0 ≤ thresholdAdjust ∧ 0 ≤ thresholdFull := by decide
  have hsig : ¬ a.target.natAbs ≤ thresholdAdjust.natAbs := by omega
  have hkeep : ¬ a.target < -thresholdFull := by omega
  simp only [adjust, hsig, hkeep, if_false, Int.add_zero, Int.sub_zero]

theorem adjust_ideal (a : Acc) (h : thresholdAdjust < a.target) :
    adjust ideal a = ({ a with target := 0 }, a.target) := by
  rw [adjust_pos ideal a h]
  have hpart : a.target > thresholdPartial := Int.lt_of_le_of_lt (by decide) h
  simp only [ideal, ite_self, Int.sub_zero, Int.add_zero, if_pos hpart, Int.sub_self]

/-- with an allocator that can arrange what is asked and no whole miners, a cycle that starts with the request the
books prescribe (rate + shortfall carried so far) delivers all of it but `lost`, and then owes exactly `lost` -/
theorem cycle_ideal (a : Acc) (lost : Int) (hf : a.full = 0) (ht : a.target = a.H + a.gU)
    (hsig : thresholdAdjust < a.target) :
    cycle ideal a lost = ({ a with gU := lost, target := a.H + lost }, a.H + a.gU - lost) := by
  unfold cycle
  rw [adjust_ideal a hsig]
  simp only [cycleEnd, hf, ht, Int.zero_add, Int.sub_zero]
  rw [show a.gU + (a.H - (a.H + a.gU - lost)) = lost by omega]

/-- **tracks the rate**: with an allocator that can arrange what is asked, an undisturbed cycle
delivers exactly the contracted rate and leaves the account steady -/
theorem ideal_cycle_delivers_rate (a : Acc) (hH : thresholdAdjust < a.H) (hs : Steady a) :
    (cycle ideal a 0).2 = a.H ∧ Steady (cycle ideal a 0).1 := by
  obtain ⟨hf, hg, ht⟩ := hs
  rw [cycle_ideal a 0 hf (by rw [ht, hg, Int.add_zero]) (ht ▸ hH), hg]
  exact ⟨by simp only [Int.add_zero, Int.sub_zero], hf, rfl, Int.add_zero _⟩

/-- **what one cycle fell short is made up in the next**: a cycle that loses `lost` (at most the rate)
leaves exactly that owed; the following undisturbed cycle delivers rate + lost and the account is
steady again — so the delivery never lags by more than what one cycle lost, nor runs ahead -/
theorem shortfall_made_up_next_cycle (a : Acc) (lost : Int) (hH : thresholdAdjust < a.H) (hs : Steady a)
    (hl : 0 ≤ lost) :
    let c1 := cycle ideal a lost
    let c2 := cycle ideal c1.1 0
    c1.2 = a.H - lost ∧ c1.1.gU = lost ∧ c2.2 = a.H + lost ∧ Steady c2.1 := by
  obtain ⟨hf, hg, ht⟩ := hs
  intro c1 c2
  have e1 : c1 = ({ a with gU := lost, target := a.H + lost }, a.H - lost) := by
    rw [show c1 = _ from cycle_ideal a lost hf (by rw [ht, hg, Int.add_zero]) (ht ▸ hH), hg, Int.add_zero]
  have e2 : c2 = ({ a with gU := 0, target := a.H + 0 }, a.H + lost - 0) := by
    rw [show c2 = cycle ideal c1.1 0 from rfl, e1]
    exact cycle_ideal _ 0 hf rfl (lt_add_of_lt_of_nonneg hH hl)
  rw [e1, e2]
  exact ⟨rfl, rfl, Int.sub_zero _, hf, rfl, Int.add_zero _⟩

/-- the cumulative shortfall is exactly rate × cycles − what was delivered, whatever the cycles did:
the books never lose or invent hashrate -/
theorem books_are_exact (a : Acc) (actuals : List Int) :
    (actuals.foldl cycleEnd a).gU = a.gU + (a.H * actuals.length - actuals.sum) ∧
    (actuals.foldl cycleEnd a).H = a.H := by
  induction actuals generalizing a with
  | nil => simp
  | cons x xs ih =>
    obtain ⟨h1, h2⟩ := ih (cycleEnd a x)
    have e1 : (cycleEnd a x).gU = a.gU + (a.H - x) := rfl
    have e2 : (cycleEnd a x).H = a.H := rfl
    rw [List.foldl_cons, h1, h2, e1, e2, List.length_cons, List.sum_cons, Int.natCast_succ, Int.mul_add]
    exact ⟨by omega, rfl⟩

/-- so the request after any history asks for exactly what is owed beyond the full miners: the
delivery is steered back to rate × elapsed cycles -/
theorem request_is_what_is_owed (a : Acc) (actuals : List Int) (x : Int) :
    (cycleEnd (actuals.foldl cycleEnd a) x).target =
      a.H - (actuals.foldl cycleEnd a).full + (a.gU + (a.H * (actuals.length + 1) - (actuals.sum + x))) := by
  obtain ⟨h1, h2⟩ := books_are_exact a actuals
  simp only [cycleEnd, h1, h2]
  rw [Int.mul_add]; omega

/-- an allocator never claims more than it was asked for, nor a negative amount -/
def Sane (al : Alloc) : Prop :=
  (∀ r, 0 ≤ r → 0 ≤ al.addFull r ∧ al.addFull r ≤ r) ∧ (∀ r, 0 ≤ r → 0 ≤ al.addPartial r ∧ al.addPartial r ≤ r)

/-- `adjust` moves the request by exactly what was arranged: whole miners added less whole miners shed,
plus the one-cycle jobs placed — nothing is lost in between -/
theorem adjust_books (al : Alloc) (a : Acc) :
    (adjust al a).1.target + ((adjust al a).1.full - a.full) + (adjust al a).2 = a.target ∧
    (adjust al a).1.gU = a.gU ∧ (adjust al a).1.H = a.H := by
  unfold adjust
  split
  · simp
  · dsimp only
    exact ⟨by omega, rfl, rfl⟩

/-- **what a leaving miner was delivering is put back into the request**: after `replaceMiner` the request
plus what was arranged on the spot equals the request before plus what the miner owed -/
theorem replace_books_what_is_owed (al : Alloc) (a : Acc) (owed : Int) (wasFull : Bool) :
    let r := replace al a owed wasFull
    r.1.target + (r.1.full - (if wasFull then a.full - owed else a.full)) + r.2 = a.target + owed :=
  (adjust_books al { a with target := a.target + owed, full := if wasFull then a.full - owed else a.full }).1

/-- if nothing could be arranged on the spot and the amount is significant, it stays requested, and the
10 s tick tries again — the replacement is not forgotten -/
theorem unarranged_is_retried (al : Alloc) (a : Acc) (owed : Int) (wasFull : Bool)
    (hsig : thresholdAdjust < a.target + owed)
    (hnone : (replace al a owed wasFull).1.full = (if wasFull then a.full - owed else a.full) ∧ (replace al a owed wasFull).2 = 0) :
    (replace al a owed wasFull).1.target = a.target + owed ∧
    tick al (replace al a owed wasFull).1 = adjust al (replace al a owed wasFull).1 := by
  have h : _ + _ + _ = _ := replace_books_what_is_owed al a owed wasFull
  have ht : (replace al a owed wasFull).1.target = a.target + owed := by omega
  exact ⟨ht, if_pos (ht ▸ pos_of_significant hsig)⟩

/-- with an allocator that can arrange what is asked, a leaving miner is replaced at once: the request
returns to where it was -/
theorem ideal_replaces_at_once (a : Acc) (owed : Int) (h0 : a.target = 0) (hsig : thresholdAdjust < owed) :
    (replace ideal a owed false).1.target = 0 ∧ (replace ideal a owed false).2 = owed := by
  unfold replace
  rw [adjust_ideal _ (show thresholdAdjust < a.target + owed by omega), h0, Int.zero_add]
  exact ⟨rfl, rfl⟩

example : (replace ideal { H := 3000, target := 0 } 2000 false).2 = 2000 := by decide

/-- with a sane allocator a significant positive request is never over-arranged: what stays requested lies
between nothing and the request, no full miner is shed, and request + arranged is conserved -/
theorem adjust_within (al : Alloc) (hs : Sane al) (a : Acc) (hpos : thresholdAdjust < a.target) :
    0 ≤ (adjust al a).1.target ∧ (adjust al a).1.target ≤ a.target ∧
    a.full ≤ (adjust al a).1.full ∧ 0 ≤ (adjust al a).2 ∧
    (adjust al a).1.target + ((adjust al a).1.full - a.full) + (adjust al a).2 = a.target := by
  have full := hs.1 a.target (pos_of_significant hpos).le
  have part := hs.2 (a.target - if a.target > thresholdFull then al.addFull a.target else 0) (by omega)
  rw [adjust_pos al a hpos]
  dsimp only
  omega   -- splits the two threshold tests: each amount is the one bounded above, or 0

/-- **never ahead, whatever the allocator can arrange**: in a cycle that starts with a significant request which is
what the books say is owed, a sane allocator — the real one is (C11) — never lets the cycle deliver more than the
rate plus the shortfall carried so far, so the account never goes into surplus -/
theorem sane_cycle_not_ahead (al : Alloc) (hs : Sane al) (a : Acc) (lost : Int) (hl : 0 ≤ lost)
    (hreq : a.target = a.H - a.full + a.gU) (hpos : thresholdAdjust < a.target) :
    (cycle al a lost).2 ≤ a.H + a.gU ∧ 0 ≤ (cycle al a lost).1.gU := by
  obtain ⟨h0, _, _, _, hsum⟩ := adjust_within al hs a hpos
  obtain ⟨_, hg, hH⟩ := adjust_books al a
  show (adjust al a).1.full + (adjust al a).2 - lost ≤ _ ∧
    0 ≤ (adjust al a).1.gU + ((adjust al a).1.H - ((adjust al a).1.full + (adjust al a).2 - lost))
  omega

/-- **the allocator of C11, as the seller watcher uses it, is sane**: what `addFullMiners` books as arranged
(`request − remainder` of `AllocateFullMinersForHR`) lies between nothing and the request, and so does what
`addPartialMiners` books (`job − remainder` of `AllocatePartialForJob`) — for every fleet and every request -/
theorem real_allocator_claims_are_sane (pop : List PRV.Model.Alloc.Miner) (r : Rat) (rem : Int) (h0 : 0 ≤ r)
    (hwf : ∀ m ∈ pop, m.tasks = 0 → m.scheduled = 0) :
    (0 ≤ r - (PRV.Model.Alloc.allocateFull pop r).2 ∧ r - (PRV.Model.Alloc.allocateFull pop r).2 ≤ r) ∧
    (r - (PRV.Model.Alloc.allocatePartial pop r rem).2 ≤ r) := by
  obtain ⟨_, h2, h3⟩ := PRV.Props.C11.full_never_overcommits pop r h0
  exact ⟨⟨by rw [h2, sub_sub_cancel]; exact h3.total_le.1, sub_le_self _ (PRV.Props.C11.full_remainder_nonneg _ r h0)⟩,
    sub_le_self _ (PRV.Props.C11.partial_spec pop r rem h0 hwf).2.2.2⟩

/-- a contract at or under the adjustment threshold is not served in a steady account (the request is
not "significant"); it is served every other cycle once the shortfall has doubled the request -/
theorem small_contract_alternates :
    ∃ al : Alloc, al = ideal ∧
      let c1 := cycle al { H := 80, target := 80 } 0
      let c2 := cycle al c1.1 0
      let c3 := cycle al c2.1 0
      (c1.2, c2.2, c3.2) = (0, 160, 0) := ⟨ideal, rfl, by decide⟩

-- the premises are satisfiable
example : Steady { H := 300, target := 300 } ∧ thresholdAdjust < (300 : Int) := ⟨⟨rfl, rfl, rfl⟩, by decide⟩
example : (cycle ideal { H := 300, target := 300 } 120).2 = 180 := by decide
example : (cycle ideal (cycle ideal { H := 300, target := 300 } 120).1 0).2 = 420 := by decide

/-- **a cycle that runs up to the cut-off has made up everything that was owed**: delivering the contracted rate plus the
carried shortfall brings the cumulative shortfall to zero -/
theorem cutoff_makes_up (a : Acc) (offered : Int) (hfull : a.full ≤ a.H + a.gU) (henough : a.H + a.gU ≤ offered) :
    (cycleEnd a (cutoff a offered)).gU = 0 := by
  simp only [cycleEnd, cutoff]; omega

/-- the cut-off never stops the partial miners short of the plain rate while something is owed -/
theorem cutoff_not_below_rate (a : Acc) (offered : Int) (howed : 0 ≤ a.gU) (h : a.H ≤ offered) : a.H ≤ cutoff a offered := by
  simp only [cutoff]; omega

/-- and never lets a cycle run ahead of what is owed by partial miners: the cumulative account does not go negative through
them (only whole miners, which the callback does not touch, can take it there) -/
theorem cutoff_not_ahead (a : Acc) (offered : Int) (hfull : a.full ≤ a.H + a.gU) : 0 ≤ (cycleEnd a (cutoff a offered)).gU := by
  simp only [cycleEnd, cutoff]; omega

/-- a cut-off at the plain rate (the shortfall term dropped) would never repay anything: the cumulative shortfall cannot
decrease in any cycle — the clause "what one cycle fell short is made up in the following ones" depends on that term -/
theorem plain_cutoff_never_makes_up (a : Acc) (offered : Int) :
    a.gU ≤ (cycleEnd a (min offered (max a.H a.full))).gU ∨ a.H < a.full := by
  simp only [cycleEnd]; omega

-- the premises are satisfiable: 300 GH/s owed on a 400 GH/s contract, 900 on offer
example : (cycleEnd { H := 400, gU := 300, target := 700 } (cutoff { H := 400, gU := 300, target := 700 } 900)).gU = 0 := by decide

/-! ### the population the allocator cannot serve (known finding) -/

/-- miners of 120 GH/s each and no usable one-cycle jobs: nothing below a whole miner can be arranged,
and whole miners only for requests above the full-miner threshold -/
def smallMiners : Alloc :=
  { addFull := fun r => (r / 120) * 120, addPartial := fun _ => 0, shed := fun x => ((x + 119) / 120) * 120 }

def runCycles (al : Alloc) : Nat → Acc → List Int
  | 0, _ => []
  | n + 1, a => let c := cycle al a 0; c.2 :: runCycles al n c.1

/-- **a population of small miners is starved, then flooded**: a 300 GH/s contract on 120 GH/s miners
gets nothing for three cycles and then four times its rate — neither "does not fall behind by more
than one cycle's worth" nor "never runs ahead by more than one cycle's worth" holds -/
theorem small_miners_starve_then_flood :
    runCycles smallMiners 5 { H := 300, target := 300 } = [0, 0, 0, 1200, 1200] := by decide +kernel

/-! ### whole miners on a contract below the whole-miner threshold (known finding) -/

def accAfter (al : Alloc) : Nat → Acc → Acc
  | 0, a => a
  | n + 1, a => accAfter al n (cycle al a 0).1

/-- one 200 GH/s miner, taken for one-cycle jobs -/
def oneSmall : Alloc := { addFull := fun _ => 0, addPartial := fun r => min r 200, shed := fun _ => 0 }
/-- two miners of 750 GH/s have joined -/
def twoJoined : Alloc :=
  { addFull := fun r => min (r / 750) 2 * 750, addPartial := fun r => min r 200, shed := fun x => min ((x + 749) / 750) 2 * 750 }

/-- **whole miners taken on to make up a shortfall overstay on a small contract**: a 400 GH/s contract served by 200 GH/s for
six cycles owes 1200; the two 750 GH/s miners that join are taken whole (the request, 1600, is above the 1000 GH/s
threshold), the shortfall is gone after one cycle, and they stay for another one because the surplus (1000) is not *above*
the threshold: the contract is then 1000 GH/s·cycles ahead, two and a half cycles' worth — "never leads by more than one
cycle's worth" does not hold -/
theorem whole_miners_overstay :
    (runCycles oneSmall 6 { H := 400, target := 400 } = [200, 200, 200, 200, 200, 200]) ∧
    (runCycles twoJoined 4 (accAfter oneSmall 6 { H := 400, target := 400 }) = [1500, 1500, 0, 0]) ∧
    (accAfter twoJoined 2 (accAfter oneSmall 6 { H := 400, target := 400 })).gU = -1000 := by decide +kernel

/-! ### "a miner that has done the work asked of it is taken off that contract": the watcher's books -/

section tracking
open PRV.Model.Tracking

theorem tracked_step (s : St) (e : Ev) (h : Tracked s ∧ s.pending = .nothing) (hc : codeOrder e = true) :
    Tracked (step s e) ∧ (step s e).pending = .nothing := by
  obtain ⟨holds, inFull, inPart, pending⟩ := s
  obtain ⟨h, rfl⟩ := h
  cases e <;> cases hc <;> cases holds <;> simp_all [Tracked, step, told]

/-- **in the order the code has (owner told, then slot freed) the books always agree with the queue**, for every history
of allocation passes and task ends: a miner the watcher lists as full is held whole, one it does not list holds nothing —
so every miner working for the contract can be shed when delivery is ahead and is released when the contract stops -/
theorem books_track_the_queue (evs : List Ev) (hc : ∀ e ∈ evs, codeOrder e = true) : Tracked (run {} evs) :=
  (List.foldlRecOn evs step (motive := fun s => Tracked s ∧ s.pending = .nothing) ⟨by simp [Tracked], rfl⟩
    fun s h e he => tracked_step s e h (hc e he)).1

/-- … and the code does have that order: every `select` case of `taskLoop` that frees the slot tells the owner first
(regenerated from the source on every run) -/
theorem code_has_that_order :
    ((PRV.Gen.C07.taskLoopBranches.filter (·.contains "UnlockAndRemove")).all
        fun b => decide (b.idxOf "OnEnd" < b.idxOf "UnlockAndRemove")) = true := by decide +kernel

/-- **with the two statements swapped a whole miner is lost**: the partial job's slot is freed, an allocation pass takes
the miner whole, and the late end notification of the partial job strikes it from the list of full miners — it holds a
whole-contract task the watcher does not know of -/
theorem swapped_order_loses_a_miner :
    (run {} [.allocPartial, .freeSlot, .allocFull, .notifyEnd]).holds = .wholeMiner ∧
    (run {} [.allocPartial, .freeSlot, .allocFull, .notifyEnd]).inFull = false ∧
    ¬ Tracked (run {} [.allocPartial, .freeSlot, .allocFull, .notifyEnd]) :=
  ⟨by decide, by decide, fun h => absurd (h.1.2 (by decide)) (by decide)⟩

end tracking

/-- `ChanRecvStop.Send` blocks until the watcher takes the event (or the channel is stopped): it has no `default` arm, so a
disconnect that arrives while the watcher is busy with another one is delivered afterwards, not dropped — every leaving
miner's owed amount goes back into the request (`replace_books_what_is_owed`) -/
theorem source_disconnect_events_are_not_dropped : PRV.Gen.C09b.sendArms = ["<-c.StopCh", "c.DataCh <- data"] := rfl

end PRV.Props.C09
