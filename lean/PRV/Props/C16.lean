import PRV.Model.Manager
import PRV.Model.ManagerStop
import PRV.Gen.C16
/-
C16 — The node watches exactly its own contracts.
Theorems about `Model/Manager.lean`, for every chain state and every event.
-/
namespace PRV.Props.C16
open PRV.Model.Manager

theorem mem_add {s : St} {a b : String} : b ∈ (add s a).watched ↔ b ∈ s.watched ∨ b = a := by
  unfold add
  split
  · rename_i h; exact ⟨.inl, fun hb => hb.elim id fun e => e ▸ by simpa using h⟩
  · simp

theorem add_only (s : St) (a b : String) (h : b ∈ (add s a).watched) : b ∈ s.watched ∨ b = a := mem_add.1 h

theorem add_me (s : St) (a : String) : (add s a).me = s.me := by
  unfold add; split <;> rfl

theorem scan_fold (l : List Contract) (s : St) (b : String) :
    b ∈ (l.foldl (fun s c => if ours s.me c then add s c.addr else s) s).watched ↔
      b ∈ s.watched ∨ b ∈ (l.filter (ours s.me)).map (·.addr) := by
  induction l generalizing s with
  | nil => simp
  | cons c rest ih =>
    rw [List.foldl_cons, ih, List.filter_cons]
    split
    · rw [add_me, mem_add, List.map_cons, List.mem_cons, or_assoc]
    · rfl

/-- **from every chain state the node may be started in**: after start-up (and after a restart)
the node watches exactly the contracts it sells plus those currently purchased with its wallet as
buyer or validator -/
theorem startup_watches_exactly_own (s : St) (b : String) :
    b ∈ (step s .restart).watched ↔ b ∈ shouldWatch s :=
  (scan_fold s.chain { s with watched := [] } b).trans (by simp [shouldWatch])

theorem setChain_watched (s : St) (c : Contract) : (setChain s c).watched = s.watched := by
  unfold setChain; split <;> rfl

theorem find_setChain_eq (s : St) (c : Contract) : find (setChain s c) c.addr = some c := by
  unfold find setChain
  split
  · rename_i h
    generalize s.chain = l at h
    induction l with
    | nil => cases h
    | cons x xs ih =>
      rw [List.map_cons, List.find?_cons]
      by_cases hx : x.addr = c.addr
      · simp [hx]
      · simp only [hx, if_false, decide_false]
        exact ih (by simpa [hx] using h)
  · rename_i h
    rw [List.find?_append, List.find?_eq_none.2 fun x hx hxa => h (List.any_eq_true.2 ⟨x, hx, hxa⟩)]
    simp

theorem find_setChain (s : St) (c : Contract) : find (setChain s c) c.addr = some c ∨ ∃ c', find (setChain s c) c.addr = some c' ∧ c'.addr = c.addr :=
  .inl (find_setChain_eq s c)

/-- **a purchase with the node's wallet as buyer or validator is picked up** (also a contract that was
watched before, ended and was released: the same contract is picked up again) -/
theorem purchase_picked_up (s : St) (a buyer validator : String) (c : Contract)
    (hc : find s a = some c) (hmine : buyer = s.me ∨ validator = s.me) :
    a ∈ (step s (.purchased a buyer validator)).watched := by
  simp only [step, hc]
  have : oursAsBuyer s.me { c with buyer := buyer, validator := validator, running := true } = true := by
    unfold oursAsBuyer view
    rcases hmine with h | h <;> simp [h]
  simp only [this, if_true]
  exact mem_add.2 (.inr rfl)

/-- a purchase by others leaves the watched set alone -/
theorem foreign_purchase_ignored (s : St) (a buyer validator : String)
    (hb : buyer ≠ s.me) (hv : validator ≠ s.me) :
    (step s (.purchased a buyer validator)).watched = s.watched := by
  simp only [step]
  cases hc : find s a with
  | none => rfl
  | some c =>
    have : oursAsBuyer s.me { c with buyer := buyer, validator := validator, running := true } = false := by
      unfold oursAsBuyer view
      simp [hb, hv]
    simp only [this, Bool.false_eq_true, if_false]
    exact setChain_watched ..

/-- **released**: when the controller of an ended purchase returns the contract is no longer watched -/
theorem ended_released (s : St) (a : String) : a ∉ (step s (.ctlExit a)).watched := by
  simp [step]

/-- a returning controller releases only its own contract -/
theorem exit_releases_only_own (s : St) (a b : String) (h : b ≠ a) :
    b ∈ (step s (.ctlExit a)).watched ↔ b ∈ s.watched := by
  simp [step, h]

/-- closing and the delete flag never change what is watched (the controllers see them, not the manager) -/
theorem close_and_flag_keep_watched (s : St) (a : String) :
    (step s (.closed a)).watched = s.watched ∧ (step s (.deleteFlag a)).watched = s.watched := by
  refine ⟨?_, rfl⟩
  simp only [step]
  cases find s a with
  | none => rfl
  | some c => exact setChain_watched ..

/-! ### the corner that does not hold (known finding, replayed on the real ContractManager) -/

def raceStart : St :=
  { me := "me", chain := [{ addr := "c1", seller := "o1" }], watched := [] }

/-- **a re-purchase handled before the ended purchase's controller has returned is lost**: after
purchase, close, re-purchase and the return of the old controller, the contract is purchased with the
node's wallet as validator and is not watched -/
theorem repurchase_before_exit_is_lost :
    let s := run raceStart [.start, .purchased "c1" "o2" "me", .closed "c1", .purchased "c1" "o2" "me", .ctlExit "c1"]
    "c1" ∈ shouldWatch s ∧ "c1" ∉ s.watched := by decide +kernel

/-- … while in the orderly order (the old controller returns first) it is watched again -/
theorem repurchase_after_exit_is_watched :
    let s := run raceStart [.start, .purchased "c1" "o2" "me", .closed "c1", .ctlExit "c1", .purchased "c1" "o2" "me"]
    "c1" ∈ shouldWatch s ∧ "c1" ∈ s.watched := by decide +kernel

/-! ### a manager that stops, stops its contracts: how `Run` ends (regenerated) -/

section stop
open PRV.Model.ManagerStop

/-- the contracts run under a context `Run` derives for them, and the deferred function cancels it before it waits -/
theorem source_run_stops_before_waiting :
    PRV.Gen.C16.runFirstStmt = "ctx, cancel := context.WithCancel(ctx)" ∧
    PRV.Gen.C16.runDeferCalls.map toStep = [.cancel, .other, .wait, .other] ∧
    PRV.Gen.C16.addContractCtx = ["Run:ctx", "handleContractCreated:ctx", "handleContractPurchased:ctx"] :=
  ⟨rfl, by decide +kernel, rfl⟩

/-- **`Run` returns, whatever made its body return and however many controllers are running** — so a manager that was
refused a call hands its error to the node's supervisor instead of hanging with nobody watching the clone factory -/
theorem run_returns_on_every_exit (s : PRV.Model.ManagerStop.St) :
    ∃ s', runDefer (PRV.Gen.C16.runDeferCalls.map toStep) s = some s' ∧ s'.running = 0 := by
  rw [source_run_stops_before_waiting.2.1]
  simp [runDefer, settle]

/-- waiting without stopping (the deferred function as it was before `8853e91`) never returns while a controller runs and
the node itself is not shutting down -/
theorem waiting_without_stopping_hangs (s : PRV.Model.ManagerStop.St) (hp : s.parentLive = true) (hc : s.ctxLive = true) (hr : 0 < s.running) :
    runDefer [.other, .wait, .other] s = none := by
  simp [runDefer, settle, hp, hc]; omega

theorem runDefer_cancelled (ds : List DStep) (s : PRV.Model.ManagerStop.St) (hs : s.ctxLive = false) : (runDefer ds s).isSome := by
  induction ds generalizing s with
  | nil => rfl
  | cons d r ih =>
    cases d with
    | cancel => exact ih _ (by simp [settle])
    | wait => simp only [runDefer, settle, hs, Bool.false_and, Bool.false_eq_true, if_false, if_true]; exact ih _ rfl
    | other => exact ih s hs

/-- in general: a deferred function returns from every state iff it cancels before it first waits (or never waits) -/
theorem returns_iff_cancel_first (ds : List DStep) :
    (∀ s, (runDefer ds s).isSome) ↔ (∀ pre post, ds = pre ++ .wait :: post → .wait ∈ pre ∨ .cancel ∈ pre) := by
  induction ds with
  | nil => simp [runDefer]
  | cons d r ih =>
    cases d with
    | cancel =>
      refine iff_of_true (fun s => runDefer_cancelled r _ (by simp [settle])) fun pre post hd => ?_
      cases pre with
      | nil => cases hd
      | cons p pre => cases hd; simp
    | wait =>
      refine iff_of_false (fun h => ?_) fun h => ?_
      · simpa [runDefer, settle] using h ({ running := 1 } : PRV.Model.ManagerStop.St)
      · simpa using h [] r rfl
    | other =>
      -- `runDefer (.other :: r) s` is `runDefer r s` by definition
      refine Iff.trans ⟨fun h s => h s, fun h s => h s⟩ (ih.trans ⟨fun h pre post hd => ?_, fun h pre post hd => ?_⟩)
      · cases pre with
        | nil => cases hd
        | cons p pre => cases hd; simpa using h pre post rfl
      · simpa using h (.other :: pre) post (by rw [hd]; rfl)

end stop

end PRV.Props.C16
