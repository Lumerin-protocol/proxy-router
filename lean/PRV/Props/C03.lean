import PRV.Proofs.Session
import PRV.Gen.C03
/-
C03 — The miner always hashes work that is valid for the pool it is assigned to.
Theorems about the pool-notification handlers and the destination switch of `Model/Session.lean`,
for every session state (hence every history leading to it).
-/
namespace PRV.Props.C03
open PRV.Model.Session PRV.Proofs.Session

def isToMiner : Out → Bool | .toMiner _ => true | _ => false

/-- **A parked pool never reaches the miner.**  Whatever a pool connection that is not the active
destination sends — job, difficulty, extranonce, mask — nothing is written to the miner. -/
theorem parked_is_silent (s : Sess) (pool : String) (d : Dest)
    (hd : lastConnOf s pool = some d) (hp : isActive s d = false) :
    (∀ job tmpl clean, (onNotify s pool job tmpl clean).2 = []) ∧
    (∀ txt n, (onDiff s pool txt n).2 = []) ∧
    (∀ x sz, (onExtranonce s pool x sz).2 = []) ∧
    (∀ mk, (onMask s pool mk).2 = []) := by
  simp [onNotify, onDiff, onExtranonce, onMask, hd, hp]

/-- **The active pool is relayed unaltered.**  Each notification of the active destination reaches
the miner as exactly one message carrying exactly what the pool sent. -/
theorem active_is_relayed (s : Sess) (pool : String) (d : Dest)
    (hd : lastConnOf s pool = some d) (hp : isActive s d = true) :
    (∀ job tmpl clean, (onNotify s pool job tmpl clean).2 = [.toMiner s!"notify job={job} clean={clean} ntime=64c25820"]) ∧
    (∀ txt n, (onDiff s pool txt n).2 = [.toMiner s!"set_difficulty [{txt}]"]) ∧
    (∀ x sz, (onExtranonce s pool x sz).2 = [.toMiner s!"set_extranonce [\"{x}\",{sz}]"]) ∧
    (∀ mk, (onMask s pool mk).2 = [.toMiner s!"set_version_mask [\"{mk}\"]"]) := by
  simp [onNotify, onDiff, onExtranonce, onMask, hd, hp]

/-- **A job is captured with what the pool associated with it.**  A notify — relayed or not —
records the job with the difficulty and extranonce the destination holds at that moment, at the
serial the job memory gives it; later difficulty / extranonce changes do not touch recorded jobs. -/
theorem job_captures_current_values (s : Sess) (pool job tmpl : String) (clean : Bool) (d : Dest)
    (hd : lastConnOf s pool = some d) :
    ∃ d', (onNotify s pool job tmpl clean).1 = setDest' s d' ∧
      d'.jobs = d.jobs ++ [{ jobId := job, tmpl := tmpl, diff := d.diff, diffTxt := d.diffTxt, xn1 := d.xn1, xn2size := d.xn2size }] ∧
      d'.diff = d.diff ∧ d'.xn1 = d.xn1 ∧ d'.mask = d.mask := by
  unfold onNotify
  simp only [hd]
  exact ⟨_, rfl, rfl, rfl, rfl, rfl⟩

theorem changes_keep_recorded_jobs (s : Sess) (pool : String) (d : Dest) (hd : lastConnOf s pool = some d) :
    (∀ txt n, ∃ d', (onDiff s pool txt n).1 = setDest' s d' ∧ d'.jobs = d.jobs ∧ d'.v = d.v ∧ d'.diff = n ∧ d'.diffTxt = txt) ∧
    (∀ x sz, ∃ d', (onExtranonce s pool x sz).1 = setDest' s d' ∧ d'.jobs = d.jobs ∧ d'.v = d.v ∧ d'.xn1 = x ∧ d'.xn2size = sz) ∧
    (∀ mk, ∃ d', (onMask s pool mk).1 = setDest' s d' ∧ d'.jobs = d.jobs ∧ d'.v = d.v ∧ d'.mask = mk) := by
  simp only [onDiff, onExtranonce, onMask, hd]
  exact ⟨fun _ _ => ⟨_, rfl, rfl, rfl, rfl, rfl⟩, fun _ _ => ⟨_, rfl, rfl, rfl, rfl, rfl⟩, fun _ => ⟨_, rfl, rfl, rfl, rfl⟩⟩

/-- **What a switch tells the miner.**  The messages start with the version mask, then the
extranonce and the difficulty captured with the destination's latest job, then that job flagged
clean-jobs; they continue with the destination's current extranonce and difficulty exactly when
these differ from the job's — so that after the last message the values last delivered to the
miner are the destination's current ones. -/
theorem resend_shape (d : Dest) (msgs : List Out) (h : resend d = some msgs) :
    ∃ n j, d.v.getLatestJob = some n ∧ d.jobs[n]? = some j ∧
      msgs = [ .toMiner s!"set_version_mask [\"{d.mask}\"]",
               .toMiner s!"set_extranonce [\"{j.xn1}\",{j.xn2size}]",
               .toMiner s!"set_difficulty [{j.diffTxt}]",
               .toMiner s!"notify job={j.jobId} clean=true ntime=64c25820" ]
        ++ (if d.xn1 ≠ j.xn1 ∨ d.xn2size ≠ j.xn2size then [.toMiner s!"set_extranonce [\"{d.xn1}\",{d.xn2size}]"] else [])
        ++ (if d.diff ≠ j.diff then [.toMiner s!"set_difficulty [{d.diffTxt}]"] else []) := by
  revert h
  fun_cases resend d with
  | case1 | case2 => nofun
  | case3 n hn j hj => exact fun h => ⟨n, j, hn, hj, (Option.some.inj h).symm⟩

theorem resend_toMiner {d : Dest} {msgs : List Out} (h : resend d = some msgs) : ∀ o ∈ msgs, isToMiner o = true := by
  obtain ⟨n, j, -, -, rfl⟩ := resend_shape d msgs h
  split <;> split <;> exact List.all_eq_true.mp rfl

theorem filter_toMiner_of_poolSide {l : List Out} (h : ∀ o ∈ l, poolSide o = true) : l.filter isToMiner = [] :=
  List.filter_eq_nil_iff.mpr fun o ho => by
    cases o with
    | toMiner l => exact nomatch h _ ho
    | _ => nofun

/-- **A switch reaches the miner as exactly that, and nothing else.**  Everything a successful
switch to another destination writes to the miner is the `resend` list of the destination switched
to; a switch to the current destination, and a failed switch, write nothing to the miner. -/
theorem switch_miner_messages (s : Sess) (pool : String) (cb : Option Nat) (cbN : Nat) :
    (switchWith s pool cb cbN).2.filter isToMiner = [] ∨
    ∃ p, findPool s pool = some p ∧
      resend (acquire s pool p ("acct" ++ pool ++ ".w" ++ pool)).2.1 = some ((switchWith s pool cb cbN).2.filter isToMiner) ∧
      (switchWith s pool cb cbN).1.active = some (pool, "acct" ++ pool ++ ".w" ++ pool) := by
  rcases switchWith_cases s pool cb cbN rfl with ⟨-, e⟩ | ⟨s', pre, w, e, -, hpre, -⟩ | ⟨p, msgs, hp, hr, e⟩ <;> rw [e]
  · exact .inl rfl
  · exact .inl (by rw [List.filter_append, filter_toMiner_of_poolSide hpre]; rfl)
  · obtain ⟨hk, -, -, hacq⟩ := acquire_spec s pool p ("acct" ++ pool ++ ".w" ++ pool)
    refine .inr ⟨p, hp, ?_, congrArg some hk⟩
    rw [hr, List.filter_append, List.filter_append, List.filter_append, filter_toMiner_of_poolSide hacq,
      filter_toMiner_of_poolSide (evict_poolSide _ _), List.filter_eq_self.mpr (resend_toMiner hr), List.append_nil]
    rfl

/-! ### facts about `Proxy.setDest`, regenerated on every run -/

/-- a change of destination is skipped as "the same" only when the whole url is the same (scheme, host, account *and*
password: pools carry options in the password), and the parked connection's reader is stopped before anything is re-sent to
the miner: what it would read meanwhile would be recorded and never relayed -/
theorem source_setDest_shape :
    PRV.Gen.C03.sameDestCond = "p.destURL.String() == newDestURL.String()" ∧
    PRV.Gen.C03.setDestCalls = ["AutoReadStop", "connectNewDest", "StopDestToSource", "StopSourceToDest", "AutoReadStart",
      "resendRelevantNotifications", "closeOldestConn", "SetDest", "StartSourceToDest", "StartDestToSource"] := ⟨rfl, rfl⟩

/-- in particular: both readers of the new destination are quiet (stopped, not yet started) while the miner is told about
the switch, and the relay starts only afterwards — "before anything else from that pool" -/
theorem resend_happens_with_readers_stopped :
    (PRV.Gen.C03.setDestCalls.idxOf "AutoReadStop" < PRV.Gen.C03.setDestCalls.idxOf "resendRelevantNotifications") ∧
    (PRV.Gen.C03.setDestCalls.idxOf "StopDestToSource" < PRV.Gen.C03.setDestCalls.idxOf "resendRelevantNotifications") ∧
    (PRV.Gen.C03.setDestCalls.idxOf "resendRelevantNotifications" < PRV.Gen.C03.setDestCalls.idxOf "StartDestToSource") := by decide +kernel

/-- what a pool connection can send on its own -/
inductive PoolEv where
  | notify (pool job tmpl : String) (clean : Bool)
  | diff (pool txt : String) (n : Nat)
  | extranonce (pool x : String) (sz : Nat)
  | mask (pool mk : String)

def PoolEv.pool : PoolEv → String
  | .notify p _ _ _ => p | .diff p _ _ => p | .extranonce p _ _ => p | .mask p _ => p

def poolStep (s : Sess) : PoolEv → Sess × List Out
  | .notify p j t c => onNotify s p j t c
  | .diff p t n => onDiff s p t n
  | .extranonce p x z => onExtranonce s p x z
  | .mask p m => onMask s p m

def poolRun : Sess → List PoolEv → Sess × List Out
  | s, [] => (s, [])
  | s, e :: es => let r := poolStep s e; let rr := poolRun r.1 es; (rr.1, r.2 ++ rr.2)

/-- the connection a pool writes to is one of that pool's -/
theorem lastConnOf_pool (s : Sess) (pool : String) (d : Dest) (h : lastConnOf s pool = some d) : d.pool = pool := by
  refine List.foldlRecOn (motive := fun acc => ∀ a, acc = some a → a.pool = pool) _ _ (fun _ h => by cases h) ?_ d h
  intro acc hacc x hx a ha
  have hxp : x.pool = pool := of_decide_eq_true (List.mem_filter.mp hx).2
  cases acc with
  | none => cases ha; exact hxp
  | some a0 =>
    dsimp only at ha
    split at ha
    · cases ha; exact hxp
    · cases ha; exact hacc a rfl

/-- the four handlers have one shape: nothing without a connection of that pool; otherwise that
connection's entry is replaced and one message goes to the miner exactly when it is the active one -/
theorem poolStep_spec (s : Sess) (e : PoolEv) :
    (lastConnOf s e.pool = none ∧ poolStep s e = (s, [])) ∨
    ∃ d d' msg, lastConnOf s e.pool = some d ∧
      poolStep s e = (setDest' s d', if isActive s d then [Out.toMiner msg] else []) := by
  cases e with
  | notify p _ _ _ | diff p _ _ | extranonce p _ _ | mask p _ =>
    unfold poolStep PoolEv.pool
    dsimp only [onNotify, onDiff, onExtranonce, onMask]
    cases lastConnOf s p
    · exact .inl ⟨rfl, rfl⟩
    · exact .inr ⟨_, _, _, rfl, rfl⟩

/-- no pool event changes which destination the miner is assigned to -/
theorem poolStep_active (s : Sess) (e : PoolEv) : (poolStep s e).1.active = s.active := by
  rcases poolStep_spec s e with ⟨-, h⟩ | ⟨d, d', msg, -, h⟩ <;> rw [h] <;> rfl

/-- **Pools the miner is not assigned to never reach it, whatever they send and for however long**:
over every history of pool events that all come from pools other than the one the miner is assigned
to, nothing at all is written to the miner (or to anyone). -/
theorem other_pools_silent_history (s : Sess) (es : List PoolEv)
    (h : ∀ e ∈ es, ∀ k, s.active = some k → e.pool ≠ k.1) :
    (poolRun s es).2 = [] ∧ (poolRun s es).1.active = s.active := by
  induction es generalizing s with
  | nil => exact ⟨rfl, rfl⟩
  | cons e es ih =>
    have hstep : (poolStep s e).2 = [] := by
      rcases poolStep_spec s e with ⟨-, e'⟩ | ⟨d, d', msg, hd, e'⟩ <;> rw [e']
      exact if_neg fun ha => h e List.mem_cons_self _ (of_decide_eq_true ha) (lastConnOf_pool s e.pool d hd).symm
    have hact := poolStep_active s e
    have i := ih (poolStep s e).1 fun e' he' k hk => h e' (List.mem_cons_of_mem _ he') k (hact ▸ hk)
    unfold poolRun
    exact ⟨by dsimp only; rw [hstep, i.1]; rfl, i.2.trans hact⟩

end PRV.Props.C03
