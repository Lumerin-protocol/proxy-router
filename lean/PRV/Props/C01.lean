import PRV.Proofs.C01
/-
C01 — Share acceptance equals proof-of-work truth.

`validateDiff` (Model/Pow.lean) is the operation-by-operation model of the Go function, assembled
from the tables regenerated from its source (Gen/C01.lean).  `Spec/C01.lean` is the Bitcoin header
layout.  The theorems hold for every hash function `H` (SHA-256 is one instance), every job, every
extranonce, every submit and every difficulty.
-/
namespace PRV.Props.C01
open PRV.Base PRV.Model.Pow PRV.Spec.C01 PRV.Proofs.C01 PRV.Gen

/-- the Stratum messages carrying a job and a share: notify params
`[job id, prevhash, coinb1, coinb2, branches, version, nbits, ntime, clean]`, submit params
`[worker, job id, extranonce2, ntime, nonce (, version bits, anything further)]` -/
def toInput (en1 mask : String) (j : Job) (s : Share) (worker jobId jobNtime : String) (clean : JVal)
    (extra : List String := []) : Input :=
  { en1 := en1
    mask := mask
    job := [.str jobId, .str j.prevHash, .str j.gen1, .str j.gen2, .arr j.branches, .str j.version, .str j.nbits,
            .str jobNtime, clean]
    submit := [worker, jobId, s.en2, s.ntime, s.nonce] ++ (match s.bits with | some b => b :: extra | none => []) }

/-! ### the regenerated description of the Go function is the one the proofs are about -/

/-- shape facts of single statements, regenerated from the source -/
theorem shape_facts :
    C01.merkleInit = "sha256d(decode(gen))" ∧
    C01.merkleStep = "merkle_root=sha256d(append(merkle_root[:],decode(branch)...))" ∧
    C01.hashFrom = "header.Bytes()" ∧ C01.hashAsInt = "reverse(hash[:])" ∧ C01.quotient = "b/h" ∧
    C01.need = "new(big.Rat).SetFloat64(job_diff);need.Mul(need,new(big.Rat).SetInt(h))" ∧
    C01.verdict = "need.Cmp(new(big.Rat).SetInt(b)) <= 0" ∧
    C01.versionOperands = [("jv", "binary.LittleEndian.Uint32:decode_swap", "version"),
                           ("sv", "binary.LittleEndian.Uint32:decode_swap", "sver"),
                           ("vm", "binary.LittleEndian.Uint32:decode_swap", "version_mask")] ∧
    C01.vaasCall = "ValidateDiffFloat(job.extraNonce1,uint(job.extraNonce2Size),job.diff,mask,job.notify,msg)" :=
  ⟨rfl, rfl, rfl, rfl, rfl, rfl, rfl, rfl, rfl⟩

theorem d1_eq : d1 = D1 := rfl

/-- **The header the code hashes is the block header.**  On well-formed input the bytes assembled
by the (regenerated) model are exactly version ‖ prevhash ‖ merkle root ‖ ntime ‖ nbits ‖ nonce in
the Bitcoin layout. -/
theorem header_eq_spec (H : List Nat → List Nat) (en1 mask : String) (j : Job) (s : Share) (w id nt : String) (c : JVal) (extra : List String)
    (h : wellFormed en1 mask j s = true) :
    Model.Pow.header H (toInput en1 mask j s w id nt c extra) = some (Spec.C01.header H en1 mask j s) :=
  -- `jobOf (toInput …)` is `j` by eta; where parameter 5 is read depends on `bits`
  header_of_reads H (toInput en1 mask j s w id nt c extra) s rfl rfl rfl (by unfold toInput; cases s.bits <;> rfl) h

/-- the header has 80 bytes -/
theorem header_len (H : List Nat → List Nat) (hH : ∀ x, (H x).length = 32) (en1 mask : String) (j : Job) (s : Share)
    (h : wellFormed en1 mask j s = true) : (Spec.C01.header H en1 mask j s).length = 80 := by
  have hroot : (Spec.C01.merkleRoot H en1 j s).length = 32 :=
    List.foldlRecOn (motive := fun r : List Nat => r.length = 32) _ _ (hH _) fun _ _ _ _ => hH _
  have hp := (hexN_bytes 32 _ (wellFormed_iff.mp h).1).1
  have := swap32_length (hexDecode j.prevHash) (by omega)
  simp only [Spec.C01.header, List.length_append, le4_length, hroot, this, hp]

/-- **What the code returns.**  For well-formed input whose header hash is not zero, the Go function
reports ⌊D1 / hash⌋ (its low 64 bits) and says "meets" exactly when `d · hash ≤ D1` for the exact
value `d` of the job difficulty; a non-finite difficulty is never met. -/
theorem validateDiff_eq_spec (H : List Nat → List Nat) (en1 mask : String) (j : Job) (s : Share) (w id nt : String) (c : JVal) (extra : List String)
    (d : Option Rat) (h : wellFormed en1 mask j s = true) (hz : shareHash H en1 mask j s ≠ 0) :
    validateDiff H (toInput en1 mask j s w id nt c extra) d =
      .ok (shareDiff H en1 mask j s % 2 ^ 64)
          (match d with | none => false | some d => decide (d * (shareHash H en1 mask j s : Rat) ≤ (D1 : Rat))) := by
  unfold validateDiff
  rw [header_eq_spec H en1 mask j s w id nt c extra h]
  have e : leNat (sha256d H (Spec.C01.header H en1 mask j s)) = shareHash H en1 mask j s := leNat_eq _
  simp only [e]
  rw [if_neg hz]
  cases d <;> rfl

/-- **Accepted iff the proof of work meets the difficulty in force.** -/
theorem accept_iff_meets (H : List Nat → List Nat) (en1 mask : String) (j : Job) (s : Share) (w id nt : String) (c : JVal) (extra : List String)
    (d : Rat) (h : wellFormed en1 mask j s = true) (hz : shareHash H en1 mask j s ≠ 0) :
    (∃ t, validateDiff H (toInput en1 mask j s w id nt c extra) (some d) = .ok t true) ↔ meets H en1 mask j s d := by
  rw [validateDiff_eq_spec H en1 mask j s w id nt c extra (some d) h hz]
  simp only [Res.ok.injEq, decide_eq_true_eq, exists_eq_left']
  rfl

/-- for an integer difficulty, "meets" is the comparison of the reported (floored) share difficulty
with it, as long as that difficulty fits 64 bits: boundary `share difficulty = d` is accepted,
`d = share difficulty + 1` is not -/
theorem meets_integer (H : List Nat → List Nat) (en1 mask : String) (j : Job) (s : Share) (d : Nat)
    (hz : shareHash H en1 mask j s ≠ 0) :
    meets H en1 mask j s (d : Rat) ↔ d ≤ shareDiff H en1 mask j s := by
  unfold meets shareDiff
  rw [Nat.le_div_iff_mul_le (Nat.pos_of_ne_zero hz), ← Rat.natCast_mul, Rat.natCast_le_natCast]

/-! ### nothing else the miner sends influences the verdict -/

/-- the worker name, the job id text, the notify's own ntime and clean flag, and parameters after
the version bits do not enter -/
theorem verdict_ignores_names (H : List Nat → List Nat) (en1 mask : String) (j : Job) (s : Share)
    (w id nt w' id' nt' : String) (c c' : JVal) (extra extra' : List String) (d : Option Rat) (h : wellFormed en1 mask j s = true) :
    validateDiff H (toInput en1 mask j s w id nt c extra) d = validateDiff H (toInput en1 mask j s w' id' nt' c' extra') d := by
  unfold validateDiff
  rw [header_eq_spec H en1 mask j s w id nt c extra h, header_eq_spec H en1 mask j s w' id' nt' c' extra' h]

/-- version bits outside the negotiated mask do not enter: two submits whose version bits agree
inside the mask hash the same header -/
theorem version_bits_outside_mask_ignored (mask : String) (j : Job) (s : Share) (b b' : String)
    (hb : word b &&& word mask = word b' &&& word mask) :
    version mask j { s with bits := some b } = version mask j { s with bits := some b' } := by
  simp only [version, hb]

/-- a submit without version bits is a submit whose version bits repeat the job's version inside
the mask -/
theorem no_bits_is_job_version (mask : String) (j : Job) (s : Share) (b : String)
    (hb : word b &&& word mask = word j.version &&& word mask) :
    version mask j { s with bits := some b } = version mask j { s with bits := none } := by
  simp only [version, hb]
  ext i hi
  simp only [BitVec.getElem_or, BitVec.getElem_and, BitVec.getElem_not]
  cases (word j.version)[i] <;> cases (word mask)[i] <;> rfl

/-- only mask-permitted bits come from the miner: outside the mask the hashed version is the job's,
inside it is the miner's -/
theorem version_bits (mask : String) (j : Job) (s : Share) (b : String) (i : Nat) (hi : i < 32) :
    (version mask j { s with bits := some b })[i] = if (word mask)[i] then (word b)[i] else (word j.version)[i] := by
  simp only [version, BitVec.getElem_or, BitVec.getElem_and, BitVec.getElem_not]
  cases (word j.version)[i] <;> cases (word mask)[i] <;> cases (word b)[i] <;> rfl

def exJob : Job := { prevHash := "221a7d5aeda279d8b8455fe56c8dc7d05582575d00038fbf0000000000000000",
                     gen1 := "01000000", gen2 := "ffffffff", branches := ["3f9f7dfc7cbfda1c1ad7a42ff7e2e35f7fe8c6b5f4fd0c49e2a66e5e3d0d2d15"],
                     version := "20000000", nbits := "17053894" }
def exShare : Share := { en2 := "000000000003", ntime := "64c25820", nonce := "00000002", bits := some "00004000" }

/-- for the kernel a string literal is `String.ofList` of its characters; rewriting with these two
before evaluating spares it the UTF-8 decoding inside `String.toList` -/
theorem isHex_ofList (l : List Char) : isHex (String.ofList l) = isHexChars l := by
  rw [isHex, String.toList_ofList]

theorem hexN_ofList (n : Nat) (l : List Char) :
    hexN n (String.ofList l) = (isHexChars l && l.length == 2 * n) := by
  rw [hexN, isHex, String.toList_ofList]

example : wellFormed "ffee" "1fffe000" exJob exShare = true := by
  simp only [wellFormed, exJob, exShare, List.all_cons, List.all_nil]
  iterate 8 rw [hexN_ofList]
  iterate 4 rw [isHex_ofList]
  decide +kernel

end PRV.Props.C01
