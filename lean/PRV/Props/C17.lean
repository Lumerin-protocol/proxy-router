import PRV.Model.Cred
/-
C17 — Pool credentials: account kept, worker suffix propagated only when allowed.
-/
namespace PRV.Props.C17
open PRV.Model.Cred

/-- Copying a destination URL changes nothing. -/
theorem copy_identity (u : Url) : copyURL u = u := rfl

/-- Adjusting the user name changes only the user name: host and everything else stay, and the
password stays exactly as it was (present with its value, or absent). -/
theorem setUser_only_user (u : Url) (name : Str) :
    (setUserName u name).host = u.host ∧ (setUserName u name).rest = u.rest ∧
    (setUserName u name).password = u.password ∧ (setUserName u name).username = name := by
  simp [setUserName, Url.password, Url.username]

theorem setWorker_only_user (u : Url) (w : Str) :
    (setWorkerName u w).host = u.host ∧ (setWorkerName u w).rest = u.rest ∧
    (setWorkerName u w).password = u.password := by
  simp [setWorkerName, setUserName, Url.password]

theorem cut_append (a t : Str) (h : dot ∉ a) : cutDot (a ++ t) = (a ++ (cutDot t).1, (cutDot t).2.1, (cutDot t).2.2) := by
  induction a with
  | nil => rfl
  | cons c cs ih =>
    rw [List.mem_cons, not_or] at h
    rw [List.cons_append, cutDot, if_neg (Ne.symm h.1), ih h.2]; rfl

theorem cut_join (a w : Str) (h : dot ∉ a) : cutDot (join a w) = (a, w, true) := by
  rw [join, List.append_assoc, cut_append _ _ h, List.singleton_append, cutDot, if_pos rfl, List.append_nil]

/-- a name without a dot has no worker part and is its own account part -/
theorem split_no_dot (s : Str) (h : dot ∉ s) : cutDot s = (s, [], false) := by
  simpa [cutDot] using cut_append s [] h

theorem cutDot_spec (s : Str) :
    dot ∉ (cutDot s).1 ∧ (s = join (cutDot s).1 (cutDot s).2.1 ∧ (cutDot s).2.2 = true ∨ cutDot s = (s, [], false)) := by
  by_cases h : dot ∈ s
  · obtain ⟨a, w, rfl, ha⟩ := List.eq_append_cons_of_mem h
    rw [show a ++ dot :: w = join a w by simp [join], cut_join a w ha]
    exact ⟨ha, .inl ⟨rfl, rfl⟩⟩
  · rw [split_no_dot s h]
    exact ⟨h, .inr rfl⟩

/-- **The account part is always kept**: the user name presented to the pool has the account part
of the destination (everything before its first dot) as its account part. -/
theorem account_kept (np : Bool) (incoming : Str) (dest : Url) :
    (cutDot (getDestUserName np incoming dest)).1 = (cutDot dest.username).1 := by
  unfold getDestUserName
  split
  · rw [cut_join _ _ ((cutDot_spec _).1)]
  · rfl

/-- **The password is always kept** (value and presence), and so is the rest of the URL -/
theorem password_kept (np : Bool) (incoming : Str) (dest : Url) :
    (authorize np incoming dest).2.2.password = dest.password ∧
    (authorize np incoming dest).2.2.host = dest.host ∧ (authorize np incoming dest).2.2.rest = dest.rest ∧
    (authorize np incoming dest).2.1 = dest.password.getD [] := by
  unfold authorize
  simp only
  split
  · have := setWorker_only_user dest (cutDot incoming).2.1
    exact ⟨this.2.2, this.1, this.2.1, by rw [this.2.2]⟩
  · exact ⟨rfl, rfl, rfl, rfl⟩

/-- **The worker suffix is appended exactly when allowed**: propagation enabled, the destination is
not a lightning-style address (no `@` in its user, no `pplp` in its host), the miner is not a
contract connection (its name is not a hex address), and the miner's name has a suffix. Otherwise
the destination's own user name is presented unchanged. -/
theorem suffix_iff_allowed (np : Bool) (incoming : Str) (dest : Url) :
    (np = false ∧ hasLightningAddress dest = false ∧ hasPPLPHost dest = false ∧ isHexAddress incoming = false ∧
        (cutDot incoming).2.2 = true →
      getDestUserName np incoming dest = join (cutDot dest.username).1 (cutDot incoming).2.1) ∧
    (¬ (np = false ∧ hasLightningAddress dest = false ∧ hasPPLPHost dest = false ∧ isHexAddress incoming = false ∧
        (cutDot incoming).2.2 = true) →
      getDestUserName np incoming dest = dest.username) := by
  simp only [getDestUserName, shouldPropagate, Bool.and_eq_true, Bool.not_eq_true', and_assoc]
  exact ⟨fun h => if_pos h, fun h => if_neg h⟩

/-- the two code paths of the authorize handler (in-place `SetWorkerName` and `getDestUserName`)
present the same user name -/
theorem authorize_paths_agree (np : Bool) (incoming : Str) (dest : Url) :
    (authorize np incoming dest).1 = getDestUserName np incoming dest := by
  unfold authorize getDestUserName
  split
  · simp [setWorkerName, setUserName, Url.username]
  · rfl

/-- a contract connection (user name = contract address) never gets a suffix propagated -/
theorem contract_connection_no_suffix (np : Bool) (incoming : Str) (dest : Url) (h : isHexAddress incoming = true) :
    getDestUserName np incoming dest = dest.username := by
  apply (suffix_iff_allowed np incoming dest).2
  intro hc; rw [h] at hc; simp at hc

/-- **Hashrate sent for a contract carries exactly the contract address as user name**, and nothing
else of the buyer's destination changes. -/
theorem contract_user_exact (dest : Url) (id : Str) :
    (adjustedDest dest id).username = id ∧ (adjustedDest dest id).password = dest.password ∧
    (adjustedDest dest id).host = dest.host ∧ (adjustedDest dest id).rest = dest.rest := by
  simp [adjustedDest, copyURL, setUserName, Url.username, Url.password]

/-- `SplitUsername` then `JoinUsername` gives the name back whenever it had a worker part. -/
theorem split_join_roundtrip (s : Str) (h : (cutDot s).2.2 = true) :
    join (cutDot s).1 (cutDot s).2.1 = s := by
  rcases (cutDot_spec s).2 with ⟨e, _⟩ | e
  · exact e.symm
  · rw [e] at h; cases h

/-- **The worker part presented to the pool is exactly the miner's own suffix** (everything after
the first dot of the name the miner authorised with), when a suffix is propagated at all. -/
theorem worker_suffix_exact (np : Bool) (incoming : Str) (dest : Url)
    (h : shouldPropagate np incoming dest = true ∧ (cutDot incoming).2.2 = true) :
    (cutDot (getDestUserName np incoming dest)).2.1 = (cutDot incoming).2.1 ∧
    (cutDot (getDestUserName np incoming dest)).2.2 = true := by
  unfold getDestUserName
  rw [if_pos h, cut_join _ _ ((cutDot_spec _).1)]
  exact ⟨rfl, rfl⟩

/-- **Worker names never accumulate**: setting a worker name on a destination that already carries
one replaces it (`acct.w1` then `w2` is `acct.w2`, never `acct.w1.w2`). -/
theorem setWorker_replaces (u : Url) (w1 w2 : Str) :
    setWorkerName (setWorkerName u w1) w2 = setWorkerName u w2 := by
  simp only [setWorkerName, setUserName, Url.username, Url.password,
    cut_join _ _ ((cutDot_spec _).1)]

theorem setWorker_idempotent (u : Url) (w : Str) :
    setWorkerName (setWorkerName u w) w = setWorkerName u w := setWorker_replaces u w w

/-- **Authorising again changes nothing**: a miner that authorises a second time with the same name
against the destination left behind by its first authorisation is presented with the same user
name and password, and the destination stays as it was. -/
theorem authorize_idempotent (np : Bool) (incoming : Str) (dest : Url) :
    authorize np incoming (authorize np incoming dest).2.2 = authorize np incoming dest := by
  unfold authorize
  by_cases h1 : shouldPropagate np incoming dest = true ∧ (cutDot incoming).2.2 = true
  · rw [if_pos h1]
    by_cases h2 : shouldPropagate np incoming (setWorkerName dest (cutDot incoming).2.1) = true ∧
        (cutDot incoming).2.2 = true
    · rw [if_pos h2, setWorker_idempotent]
    · rw [if_neg h2]
  · rw [if_neg h1, if_neg h1]

/-- repeated authorisations, any number of them: the destination after the first one is final -/
theorem authorize_repeat (np : Bool) (incoming : Str) (dest : Url) (n : Nat) :
    (Nat.repeat (fun d => (authorize np incoming d).2.2) (n + 1) dest) = (authorize np incoming dest).2.2 := by
  induction n with
  | zero => rfl
  | succ k ih =>
    show (authorize np incoming (Nat.repeat _ (k + 1) dest)).2.2 = _
    rw [ih, authorize_idempotent]

/-- the account part survives any sequence of miners authorising one after another against the
same destination object (the in-place `SetWorkerName` path) -/
theorem account_kept_sequence (np : Bool) (dest : Url) (names : List Str) :
    (cutDot (names.foldl (fun d nm => (authorize np nm d).2.2) dest).username).1 = (cutDot dest.username).1 :=
  List.foldlRecOn (motive := fun d => (cutDot d.username).1 = (cutDot dest.username).1) names _ rfl fun d hd nm _ =>
    ((congrArg (fun u => (cutDot u).1) (authorize_paths_agree np nm d)).trans (account_kept np nm d)).trans hd

/-- and so does the password, the host and the rest of the URL -/
theorem password_kept_sequence (np : Bool) (dest : Url) (names : List Str) :
    (names.foldl (fun d nm => (authorize np nm d).2.2) dest).password = dest.password ∧
    (names.foldl (fun d nm => (authorize np nm d).2.2) dest).host = dest.host ∧
    (names.foldl (fun d nm => (authorize np nm d).2.2) dest).rest = dest.rest :=
  List.foldlRecOn (motive := fun d => d.password = dest.password ∧ d.host = dest.host ∧ d.rest = dest.rest) names _
    ⟨rfl, rfl, rfl⟩ fun d hd nm _ =>
      have h := password_kept np nm d
      ⟨h.1.trans hd.1, h.2.1.trans hd.2.1, h.2.2.1.trans hd.2.2⟩

/-- a contract destination adjusted twice (restart, terms refresh) is adjusted once -/
theorem adjusted_idempotent (dest : Url) (id : Str) :
    adjustedDest (adjustedDest dest id) id = adjustedDest dest id := by
  simp [adjustedDest, copyURL, setUserName, Url.password]

/-! ### non-vacuity -/
def exampleDest : Url := ⟨some ⟨[112, 46, 113], some [120]⟩, [104], []⟩
example : getDestUserName false [97, 46, 119] exampleDest = [112, 46, 119] := by decide
example : isHexAddress ([48, 120] ++ List.replicate 40 97) = true := by decide
example : shouldPropagate false [97, 46, 119] exampleDest = true ∧ (cutDot [97, 46, 119]).2.2 = true := by decide
example : setWorkerName (setWorkerName exampleDest [119]) [122] = ⟨some ⟨[112, 46, 122], some [120]⟩, [104], []⟩ := by decide

end PRV.Props.C17
